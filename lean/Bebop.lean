import Bebop.Bytes
import Bebop.Evolve
import Bebop.Generated.CliFacts
import Bebop.Generated.Facts
import Bebop.Generated.PurityFacts
import Bebop.Generated.TemplateFacts
import Bebop.Generated.TextFacts
import Bebop.Proofs.Canon.ByteClass
import Bebop.Proofs.Canon.Check
import Bebop.Proofs.Canon.Cursor
import Bebop.Proofs.Canon.Defs
import Bebop.Proofs.Canon.Embed
import Bebop.Proofs.Canon.FmtX
import Bebop.Proofs.Canon.Gen
import Bebop.Proofs.Canon.Lang
import Bebop.Proofs.Canon.LangWF
import Bebop.Proofs.Canon.Lexer
import Bebop.Proofs.Canon.ParseX
import Bebop.Proofs.Canon.Tables
import Bebop.Proofs.Chunks
import Bebop.Proofs.Cli
import Bebop.Proofs.Dec
import Bebop.Proofs.Enc
import Bebop.Proofs.Evolve
import Bebop.Proofs.Flags
import Bebop.Proofs.Format
import Bebop.Proofs.FuelMono
import Bebop.Proofs.GSize
import Bebop.Proofs.Imports
import Bebop.Proofs.NoPanic
import Bebop.Proofs.Parser
import Bebop.Proofs.Purity
import Bebop.Proofs.Reads
import Bebop.Proofs.Restrict
import Bebop.Proofs.RoundTrip
import Bebop.Proofs.StreamBind
import Bebop.Proofs.StreamErr
import Bebop.Proofs.StreamEvolve
import Bebop.Proofs.StreamFuelMono
import Bebop.Proofs.StreamTrunc
import Bebop.Proofs.Tokenizer
import Bebop.Proofs.TokenizerFuel
import Bebop.Proofs.TokenizerProgress
import Bebop.Proofs.Trunc
import Bebop.Proofs.Validate
import Bebop.Proofs.Writer
import Bebop.Props.C01
import Bebop.Props.C02
import Bebop.Props.C03
import Bebop.Props.C04
import Bebop.Props.C05
import Bebop.Props.C06
import Bebop.Props.C07
import Bebop.Props.C08
import Bebop.Props.C09
import Bebop.Props.C10
import Bebop.Props.C11
import Bebop.Props.C12
import Bebop.Props.C13
import Bebop.Props.C14
import Bebop.Props.C15
import Bebop.Props.C16
import Bebop.Props.C17
import Bebop.Props.C18
import Bebop.Props.C19
import Bebop.Props.C20
import Bebop.Props.Canon
import Bebop.Props.Common
import Bebop.Slice
import Bebop.Stream
import Bebop.Text.Ast
import Bebop.Text.Cli
import Bebop.Text.Dump
import Bebop.Text.Format
import Bebop.Text.Grammar
import Bebop.Text.Imports
import Bebop.Text.Parser
import Bebop.Text.Purity
import Bebop.Text.Tokenizer
import Bebop.Text.Validate
import Bebop.Wire
