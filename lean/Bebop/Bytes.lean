/-
  Bytes: little-endian fixed-width scalars as lists of bytes.

  An n-byte scalar on the wire is modelled as a natural number `< 256^n` (its bit
  pattern).  Signed integers, floats and dates are their two's-complement / IEEE
  bit patterns, so NaN payloads and negative numbers are ordinary values here.
-/
namespace Bebop

abbrev Byte := UInt8

/-- Found at once; the search otherwise goes through the instances that derive `==` from an order, and each
    fails only after `instBEqOfDecidableEq` has been unfolded against it. -/
instance : LawfulBEq Byte := inferInstance

/-- `leBytes k n`: the `k` low-order bytes of `n`, least significant first. -/
def leBytes : Nat → Nat → List Byte
  | 0, _ => []
  | k+1, n => UInt8.ofNat (n % 256) :: leBytes k (n / 256)

/-- Value of a little-endian byte string. -/
def ofLe : List Byte → Nat
  | [] => 0
  | b :: bs => b.toNat + 256 * ofLe bs

@[simp] theorem length_leBytes (k n : Nat) : (leBytes k n).length = k := by
  induction k generalizing n with
  | zero => rfl
  | succ k ih => simp [leBytes, ih]

theorem ofLe_lt (bs : List Byte) : ofLe bs < 256 ^ bs.length := by
  induction bs with
  | nil => simp [ofLe]
  | cons b bs ih =>
    have hb : b.toNat < 256 := b.toNat_lt
    simp only [ofLe, List.length_cons, Nat.pow_succ]
    omega

/-- Reading back yields the value reduced modulo the width (Go's integer conversion). -/
theorem ofLe_leBytes_mod (k n : Nat) : ofLe (leBytes k n) = n % 256 ^ k := by
  induction k generalizing n with
  | zero => simp [leBytes, ofLe, Nat.mod_one]
  | succ k ih =>
    simp only [leBytes, ofLe, UInt8.toNat_ofNat_of_lt' (Nat.mod_lt n (by decide : 0 < 256)), ih]
    rw [Nat.pow_succ, Nat.mul_comm (256 ^ k) 256, Nat.mod_mul]

theorem ofLe_leBytes (k n : Nat) (h : n < 256 ^ k) : ofLe (leBytes k n) = n := by
  rw [ofLe_leBytes_mod, Nat.mod_eq_of_lt h]

theorem leBytes_ofLe (bs : List Byte) : leBytes bs.length (ofLe bs) = bs := by
  induction bs with
  | nil => rfl
  | cons b bs ih =>
    have hb : b.toNat < 256 := b.toNat_lt
    simp only [List.length_cons, leBytes, ofLe, Nat.add_mul_mod_self_left, Nat.mod_eq_of_lt hb, UInt8.ofNat_toNat,
      Nat.add_mul_div_left _ _ (by decide : 0 < 256), Nat.div_eq_of_lt hb, Nat.zero_add, ih]

theorem leBytes_inj (k a b : Nat) (ha : a < 256 ^ k) (hb : b < 256 ^ k)
    (h : leBytes k a = leBytes k b) : a = b := by
  rw [← ofLe_leBytes k a ha, ← ofLe_leBytes k b hb, h]

/-- Little-endian layout: the first byte is the least significant one. -/
theorem leBytes_head (k n : Nat) : (leBytes (k+1) n).head? = some (UInt8.ofNat (n % 256)) := rfl

end Bebop
