/-
  Canon/ByteClass: the classes of bytes the tokenizer tells apart (blank, letter, digit, identifier byte) and what
  the regenerated tables say about them.
-/
import Bebop.Proofs.Canon.Tables

namespace Bebop.Text

/-- The bytes `findFirst` skips at the root of the token tree. -/
def isBlank (c : Byte) : Bool := c.toNat == 32 || c.toNat == 9 || c.toNat == 13

/-- A byte that continues an identifier (the test of `identLoop`). -/
def identCont (c : Byte) : Bool := isAsciiLetter c || isNumeric c || c == b '_'

/-- Identifier bytes: an ASCII letter followed by ASCII letters, digits, underscores. -/
def identBytes : List Byte → Bool
  | [] => false
  | c :: r => isAsciiLetter c && r.all identCont

/-- An identifier of the sub-language: an ASCII letter followed by ASCII letters, digits and underscores,
    which the tokenizer does not classify as a keyword (`keywordKind` looks the word up in the
    regenerated `Facts.keywordTable`). -/
def IdentOk (s : Str) : Bool := identBytes s && (keywordKind s).isNone

namespace Canon

def Blanks (u : List Byte) : Prop := ∀ c ∈ u, isBlank c = true

theorem Blanks.nil : Blanks [] := nofun
theorem Blanks.of_all {u : List Byte} (h : u.all isBlank = true) : Blanks u := fun c hc => List.all_eq_true.1 h c hc
theorem Blanks.tail {c : Byte} {u : List Byte} (h : Blanks (c :: u)) : Blanks u := (List.forall_mem_cons.1 h).2
theorem Blanks.head {c : Byte} {u : List Byte} (h : Blanks (c :: u)) : isBlank c = true := (List.forall_mem_cons.1 h).1
theorem Blanks.append {u v : List Byte} (hu : Blanks u) (hv : Blanks v) : Blanks (u ++ v) :=
  List.forall_mem_append.2 ⟨hu, hv⟩

theorem skips_contains (c : Byte) : Facts.tokenTreeSkips.contains c.toNat = isBlank c := by
  simp only [Facts.tokenTreeSkips, isBlank, List.contains_cons, List.contains_nil, Bool.or_false, Bool.or_assoc]

theorem b_toNat_x : (b 'x').toNat = 120 := by decide
theorem b_toNat_dot : (b '.').toNat = 46 := by decide
theorem b_toNat_us : (b '_').toNat = 95 := by decide
theorem b_toNat_e : (b 'e').toNat = 101 := by decide
theorem b_toNat_i : (b 'i').toNat = 105 := by decide

theorem beq_false_of_toNat {c d : Byte} (h : c.toNat ≠ d.toNat) : (c == d) = false :=
  beq_false_of_ne (mt (congrArg _) h)

/-- bytes that a test tells apart differ -/
theorem beq_false_of_mem {p : Byte → Bool} {c d : Byte} (hc : p c = true) (hd : p d = false) : (c == d) = false :=
  beq_false_of_ne fun e => by rw [e, hd] at hc; cases hc

theorem letter_range {c : Byte} (h : isAsciiLetter c = true) :
    (0x61 ≤ c.toNat ∧ c.toNat ≤ 0x7a) ∨ (0x41 ≤ c.toNat ∧ c.toNat ≤ 0x5a) := by
  simpa [isAsciiLetter] using h

theorem numeric_range {c : Byte} (h : isNumeric c = true) : 0x30 ≤ c.toNat ∧ c.toNat ≤ 0x39 := by
  simpa [isNumeric] using h

theorem hex_range {c : Byte} (h : isHexLetter c = true) :
    (0x61 ≤ c.toNat ∧ c.toNat ≤ 0x66) ∨ (0x41 ≤ c.toNat ∧ c.toNat ≤ 0x46) := by
  simpa [isHexLetter] using h

theorem letter_not_blank {c : Byte} (h : isAsciiLetter c = true) : isBlank c = false := by
  have h' := letter_range h
  simp [isBlank]; omega

theorem letter_not_numeric {c : Byte} (h : isAsciiLetter c = true) : isNumeric c = false := by
  have h' := letter_range h
  simp [isNumeric]; omega

theorem numeric_not_blank {c : Byte} (h : isNumeric c = true) : isBlank c = false := by
  have := numeric_range h; simp [isBlank]; omega

theorem letter_lt {c : Byte} (h : isAsciiLetter c = true) : ¬ (c.toNat ≥ 0x80) := by
  have h' := letter_range h; omega

theorem identCont_lt {c : Byte} (h : identCont c = true) : ¬ (c.toNat ≥ 0x80) := by
  simp only [identCont, Bool.or_eq_true] at h
  rcases h with (h | h) | h
  · exact letter_lt h
  · simp [isNumeric] at h; omega
  · have := eq_of_beq h; rw [this, b_toNat_us]; omega

theorem identCont_numeric {c : Byte} (h : isNumeric c = true) : identCont c = true := by simp [identCont, h]

theorem identCont_hex {c : Byte} (h : isHexLetter c = true) : identCont c = true := by
  have hr := hex_range h
  have : isAsciiLetter c = true := by simp [isAsciiLetter]; omega
  simp [identCont, this]

theorem identOk_split {s : Str} (h : IdentOk s = true) : identBytes s = true ∧ keywordKind s = none := by
  simp only [IdentOk, Bool.and_eq_true, Option.isNone_iff_eq_none] at h
  exact h

theorem sbk_letter {c : Byte} (h : isAsciiLetter c = true) : singleByteKind c = none := by
  cases hk : singleByteKind c with
  | none => rfl
  | some k => have := sbk_range hk; have := letter_range h; omega

theorem sbk_numeric {c : Byte} (h : isNumeric c = true) : singleByteKind c = none := by
  cases hk : singleByteKind c with
  | none => rfl
  | some k => have := sbk_range hk; have := numeric_range h; omega

theorem sbk_minus : singleByteKind 45 = none := by rw [singleByteKind_eq]; rfl
theorem sbk_quote : singleByteKind 34 = none := by rw [singleByteKind_eq]; rfl
theorem sbk_slash : singleByteKind 47 = none := by rw [singleByteKind_eq]; rfl
theorem sbk_lt : singleByteKind 60 = none := by rw [singleByteKind_eq]; rfl
theorem sbk_gt : singleByteKind 62 = none := by rw [singleByteKind_eq]; rfl

end Canon
end Bebop.Text
