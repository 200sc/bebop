/-
  Canon/Cursor: the reader as the parser and the formatter see it.  On a clean reader state the only things
  `Next`, `UnNext`, `Token` and the error test depend on are the current token, whether `UnNext` holds it back,
  and the tokens `Next` will deliver: a `Cur`.  `At N s t` ties a reader state to its cursor; `Runs m s a s'` says
  that the parser action `m`, started at any reader state with cursor `s`, returns `a` at a state with cursor `s'`
  — unless it runs out of fuel.

  Fuel is not accounted for in these proofs: that `readFile` and `format` never run out of the fuel they
  supply is known for every input (`readFile_spec`, `format_total`), so what is proved about a
  fuelled function is what it returns if it returns.  The one exception is `formatEnum.optValue`, which answers
  wrongly when its fuel runs out: for its sake `At` carries a bound `N` on the tokens to come.

  A proof about a parser function follows the function once, one `Runs.bind` per call; `if` and `match` on the
  kind of a known token are decided by unification, an `if` whose condition a hypothesis decides by `Runs.if_true` /
  `Runs.if_false`.  (Write one `refine (…).bind ?_` per call whose result steers
  the control flow: in a nested term the continuation is elaborated before that result is known, and
  unification runs away.)
-/
import Bebop.Text.Parser
import Bebop.Proofs.Canon.Lexer

namespace Bebop.Text
namespace Canon

/-- `up`: the tokens `Next` will deliver, the current one first if it is held back. -/
structure Cur where
  tok : Token
  kept : Bool
  up : List Token

/-- `N` bounds the number of tokens to come.  (One loop of the formatter, `formatEnum.optValue`, answers wrongly
    instead of not at all when its fuel runs out; this bound is what rules that out.) -/
def At (N : Nat) (s : Cur) (t : TR) : Prop :=
  ∃ t0 l, Lex l t0 ∧ l.length ≤ N ∧ t0.nextTok = s.tok ∧ t = { t0 with keep := s.kept } ∧
    s.up = if s.kept then s.tok :: l else l

variable {N : Nat}

theorem Lex.at {l : List Token} {t : TR} (h : Lex l t) (hN : l.length ≤ N) : At N ⟨t.nextTok, false, l⟩ t :=
  ⟨t, l, h, hN, rfl, (keep_false_eq h.ok.keep).symm, rfl⟩

theorem At.tok {s : Cur} {t : TR} (h : At N s t) : t.nextTok = s.tok := by
  obtain ⟨t0, l, _, _, h2, rfl, _⟩ := h; exact h2

theorem At.clean {s : Cur} {t : TR} (h : At N s t) : t.errs = [] ∧ t.panicked = false ∧ t.nonAscii = false := by
  obtain ⟨t0, l, h1, _, _, rfl, _⟩ := h; exact ⟨h1.ok.errs, h1.ok.pan, h1.ok.na⟩

theorem At.up_le {s : Cur} {t : TR} (h : At N s t) : s.up.length ≤ N + 1 := by
  obtain ⟨t0, l, _, hl, _, _, h4⟩ := h
  rw [h4]; split
  · exact Nat.succ_le_succ hl
  · exact Nat.le_succ_of_le hl

theorem At.unNext {c : Token} {l : List Token} {t : TR} (h : At N ⟨c, false, l⟩ t) :
    At N ⟨c, true, c :: l⟩ { t with keep := true } := by
  obtain ⟨t0, l', h1, hl, h2, rfl, h4⟩ := h
  exact ⟨t0, l', h1, hl, h2, rfl, by rw [show l = l' from h4]; rfl⟩

theorem At.next_cons {c x : Token} {k : Bool} {l : List Token} {t : TR} (h : At N ⟨c, k, x :: l⟩ t) :
    ∃ t', next t = (true, t') ∧ At N ⟨x, false, l⟩ t' := by
  obtain ⟨t0, l', h1, hl, h2, rfl, h4⟩ := h
  cases k with
  | true =>
    -- `next` after `UnNext` only drops the mark: it returns the clean state `t0` underneath
    obtain ⟨rfl, rfl⟩ : x = c ∧ l = l' := by simpa using h4
    exact ⟨t0, next_unNext t0 h1.ok.keep, by rw [← show t0.nextTok = x from h2]; exact h1.at hl⟩
  | false =>
    obtain rfl : x :: l = l' := h4
    obtain ⟨t', hn, htok, hl'⟩ := h1.2
    exact ⟨t', by rw [keep_false_eq h1.ok.keep]; exact hn, by rw [← htok]; exact hl'.at (Nat.le_of_succ_le hl)⟩

theorem At.next_nil {c : Token} {k : Bool} {t : TR} (h : At N ⟨c, k, []⟩ t) :
    ∃ t', next t = (false, t') ∧ At N ⟨c, false, []⟩ t' := by
  obtain ⟨t0, l', h1, _, h2, rfl, h4⟩ := h
  cases k with
  | true => cases h4
  | false =>
    obtain rfl : [] = l' := h4
    obtain ⟨t', hn, hok, hinp, htok⟩ := h1.2
    refine ⟨t', by rw [keep_false_eq h1.ok.keep]; exact hn, ?_⟩
    have : Lex [] t' := ⟨hok, t', next_at_eof t' hok.keep hinp hok.io, hok, hinp, rfl⟩
    rw [← show t'.nextTok = c from htok.trans h2]; exact this.at (Nat.zero_le _)

/-! ### parser actions on cursors -/

def Runs {α} (m : P α) (s : Cur) (a : α) (s' : Cur) : Prop :=
  ∀ N t, At N s t → m t = .fuel ∨ ∃ t', m t = .ok a t' ∧ At N s' t'

theorem Runs.fuel {α} (s : Cur) (a : α) (s' : Cur) : Runs outOfFuel s a s' := fun _ _ _ => .inl rfl

theorem Runs.pure {α} (a : α) (s : Cur) : Runs (pure a : P α) s a s := fun _ t h => .inr ⟨t, rfl, h⟩

theorem Runs.bind {α β} {m : P α} {k : α → P β} {s s₁ s₂ : Cur} {a : α} {b : β}
    (h₁ : Runs m s a s₁) (h₂ : Runs (k a) s₁ b s₂) : Runs (m >>= k) s b s₂ := by
  intro N t ht
  rcases h₁ N t ht with e₁ | ⟨t₁, e₁, ht₁⟩
  · exact .inl (by simp only [Bind.bind, e₁])
  · simp only [Bind.bind, e₁]; exact h₂ N t₁ ht₁

theorem Runs.if_true {α} {c : Bool} {m n : P α} {s : Cur} {a : α} {s' : Cur} (hc : c = true) (h : Runs m s a s') :
    Runs (if c then m else n) s a s' := by subst hc; exact h

theorem Runs.if_false {α} {c : Bool} {m n : P α} {s : Cur} {a : α} {s' : Cur} (hc : c = false) (h : Runs n s a s') :
    Runs (if c then m else n) s a s' := by subst hc; exact h

theorem Runs.next_cons (c : Token) (k : Bool) (x : Token) (l : List Token) :
    Runs pNext ⟨c, k, x :: l⟩ true ⟨x, false, l⟩ := by
  intro _ t h; obtain ⟨t', hn, h'⟩ := h.next_cons; exact .inr ⟨t', by simp only [pNext, hn], h'⟩

theorem Runs.next_nil (c : Token) (k : Bool) : Runs pNext ⟨c, k, []⟩ false ⟨c, false, []⟩ := by
  intro _ t h; obtain ⟨t', hn, h'⟩ := h.next_nil; exact .inr ⟨t', by simp only [pNext, hn], h'⟩

theorem Runs.tok (s : Cur) : Runs pTok s s.tok s := fun _ t h => .inr ⟨t, by simp only [pTok, h.tok], h⟩

theorem Runs.hasErr (s : Cur) : Runs pHasErr s false s :=
  fun _ t h => .inr ⟨t, by simp only [pHasErr, Text.hasErr, h.clean.1, List.isEmpty_nil, Bool.not_true], h⟩

theorem Runs.unNext (c : Token) (l : List Token) : Runs pUnNext ⟨c, false, l⟩ () ⟨c, true, c :: l⟩ :=
  fun _ _ h => .inr ⟨_, rfl, h.unNext⟩

theorem Runs.dropKeep (c : Token) (l : List Token) :
    Runs (fun t => PR.ok () { t with keep := false } : P Unit) ⟨c, false, l⟩ () ⟨c, false, l⟩ := by
  intro _ t h
  obtain ⟨t0, l', h1, hl, h2, rfl, h4⟩ := h
  exact .inr ⟨_, rfl, t0, l', h1, hl, h2, rfl, h4⟩

/-- a function on fuel that gives up when it has none -/
theorem Runs.step {α} {F : Nat → P α} {s : Cur} {a : α} {s' : Cur} (h : ∀ f, Runs (F (f + 1)) s a s')
    (h0 : F 0 = outOfFuel) : ∀ f, Runs (F f) s a s'
  | 0 => h0 ▸ Runs.fuel _ _ _
  | f + 1 => h f

/-- `m` returns `a`, wherever the reader ends -/
def Returns {α} (m : P α) (s : Cur) (a : α) : Prop := ∃ s', Runs m s a s'

theorem Runs.then {α β} {m : P α} {k : α → P β} {s s₁ : Cur} {a : α} {b : β}
    (h₁ : Runs m s a s₁) (h₂ : Returns (k a) s₁ b) : Returns (m >>= k) s b :=
  h₂.imp fun _ h => h₁.bind h

theorem Returns.step {α} {F : Nat → P α} {s : Cur} {a : α} (h : ∀ f, Returns (F (f + 1)) s a)
    (h0 : F 0 = outOfFuel) : ∀ f, Returns (F f) s a
  | 0 => ⟨s, h0 ▸ Runs.fuel _ _ _⟩
  | f + 1 => h f

theorem mkTR_ok (inp : List Byte) : Ok (mkTR inp false) := ⟨rfl, rfl, rfl, rfl, rfl⟩

theorem LexI.at {l : List Token} {inp : List Byte} (h : LexI l inp) :
    At inp.length ⟨(mkTR inp false).nextTok, false, l⟩ (mkTR inp false) :=
  (h _ (mkTR_ok _) rfl).at (h _ (mkTR_ok _) rfl).length_le

end Canon
end Bebop.Text
