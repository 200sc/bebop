/-
  Canon/Defs: the struct-only sub-language — abstract syntax (`CStruct`), its canonical text (`canonText`,
  the formatter's own output style), the `File` it denotes (`fileOf`) and arbitrarily laid-out texts
  (`laidOut w`).  Its theorems are instances of those of the extended sub-language (Canon/Embed.lean).
-/
import Bebop.Proofs.Canon.Lexer

namespace Bebop.Text

/-- A struct of the sub-language: its name and its fields as (type name, field name). -/
structure CStruct where
  name : Str
  fields : List (Str × Str)

def CStructOk (s : CStruct) : Prop :=
  IdentOk s.name = true ∧ ∀ f ∈ s.fields, IdentOk f.1 = true ∧ IdentOk f.2 = true

/-- `\tType field;\n` -/
def fieldText (f : Str × Str) : Str := [9] ++ f.1 ++ [32] ++ f.2 ++ [59, 10]

/-- `struct Name {\n` fields `}\n` -/
def structText (s : CStruct) : Str :=
  kwStruct ++ [32] ++ s.name ++ [32, 123, 10] ++ (s.fields.map fieldText).flatten ++ [125, 10]

/-- The canonical text: the structs in order, separated by one empty line. -/
def canonText : List CStruct → Str
  | [] => []
  | [s] => structText s
  | s :: s' :: r => structText s ++ [10] ++ canonText (s' :: r)

def cstructOf (s : CStruct) : Struct :=
  { name := s.name, comment := [], opCode := 0, readOnly := false,
    fields := s.fields.map fun f =>
      { ft := FT.simple f.1, name := f.2, comment := [], tags := [], depMsg := [], deprecated := false } }

/-- The `File` a schema of the sub-language denotes. -/
def fileOf (ss : List CStruct) : File :=
  { structs := ss.map cstructOf, messages := [], enums := [], unions := [], consts := [], imports := [],
    goPackage := [] }

/-! ### laid-out texts

`w i j k` is the run of blanks used in struct number `i`, on line `j` of that struct (0: the header line,
1 … n: the field lines, n+1: the closing line), at slot `k`:

  slot 0  before `struct`            slot 5  before the field type (the indentation)
  slot 1  between `struct` and name  slot 6  between field type and field name
  slot 2  between name and `{`       slot 7  between field name and `;`
  slot 3  between `{` and newline    slot 8  between `;` and newline
  slot 4  on the separating empty    slot 9  before `}`
          line before the struct     slot 10 between `}` and newline
          (structs after the first)
-/

abbrev CLay := Nat → Nat → Nat → List Byte

/-- Every run consists of blanks (space, tab, CR); the two runs that separate two words are non-empty. -/
structure LayOk (w : CLay) : Prop where
  blank : ∀ i j k, ∀ c ∈ w i j k, isBlank c = true
  ne1 : ∀ i j, w i j 1 ≠ []
  ne6 : ∀ i j, w i j 6 ≠ []

/-- The layout of the canonical text. -/
def canonLay : CLay := fun _ _ k =>
  if k = 5 then [9] else if k = 1 ∨ k = 2 ∨ k = 6 then [32] else []

/-- field lines and the closing line, followed by `rest` -/
def layFields (v : Nat → Nat → List Byte) : List (Str × Str) → List Byte → List Byte
  | [], rest => v 0 9 ++ 125 :: (v 0 10 ++ 10 :: rest)
  | f :: fs, rest =>
    v 0 5 ++ (f.1 ++ (v 0 6 ++ (f.2 ++ (v 0 7 ++ 59 :: (v 0 8 ++ 10 :: layFields (fun j => v (j + 1)) fs rest)))))

def layStruct (v : Nat → Nat → List Byte) (s : CStruct) (rest : List Byte) : List Byte :=
  v 0 0 ++ (kwStruct ++ (v 0 1 ++ (s.name ++ (v 0 2 ++ 123 :: (v 0 3 ++ 10 ::
    layFields (fun j => v (j + 1)) s.fields rest)))))

def layTail (w : CLay) : List CStruct → List Byte
  | [] => []
  | s :: ss => w 0 0 4 ++ 10 :: layStruct (w 0) s (layTail (fun i => w (i + 1)) ss)

/-- The schema `ss` written with the layout `w`. -/
def laidOut (w : CLay) : List CStruct → List Byte
  | [] => []
  | s :: ss => layStruct (w 0) s (layTail (fun i => w (i + 1)) ss)

namespace Canon

/-! ### canonical text = the canonical layout -/

/-- the canonical layout is the same on every line -/
theorem canonLay_line : (fun j => canonLay 0 (j + 1)) = canonLay 0 := rfl

theorem layFields_canon (fs : List (Str × Str)) (rest : List Byte) :
    layFields (canonLay 0) fs rest = (fs.map fieldText).flatten ++ [125, 10] ++ rest := by
  induction fs with
  | nil => rfl
  | cons f fs ih =>
    simp only [layFields, canonLay_line, ih]
    simp [canonLay, fieldText]

theorem layStruct_canon (s : CStruct) (rest : List Byte) :
    layStruct (canonLay 0) s rest = structText s ++ rest := by
  simp only [layStruct, canonLay_line, layFields_canon]
  simp [canonLay, structText]

theorem canonLay_shift : (fun i => canonLay (i + 1)) = canonLay := rfl

theorem layTail_canon (s : CStruct) (ss : List CStruct) :
    structText s ++ layTail canonLay ss = canonText (s :: ss) := by
  induction ss generalizing s with
  | nil => exact List.append_nil _
  | cons s' ss ih =>
    simp only [layTail, canonText, canonLay_shift, layStruct_canon, ih]
    simp [canonLay]

theorem laidOut_canon (ss : List CStruct) : laidOut canonLay ss = canonText ss := by
  cases ss with
  | nil => rfl
  | cons s ss => simp only [laidOut, canonLay_shift, layStruct_canon, layTail_canon]

theorem canonLay_ok : LayOk canonLay :=
  ⟨fun _ _ _ => iteInduction (motive := Blanks) (fun _ => .of_all rfl) fun _ =>
      iteInduction (motive := Blanks) (fun _ => .of_all rfl) fun _ => .nil,
    fun _ _ => List.cons_ne_nil 32 [], fun _ _ => List.cons_ne_nil 32 []⟩

theorem layOk_shift {w : CLay} (h : LayOk w) : LayOk (fun i => w (i + 1)) :=
  ⟨fun i j k => h.blank (i + 1) j k, fun i j => h.ne1 (i + 1) j, fun i j => h.ne6 (i + 1) j⟩

end Canon
end Bebop.Text
