/-
  Canon/Embed: the struct-only sub-language of Canon/Defs.lean is the special case of the extended
  sub-language: same canonical text, same denotation, well-formedness carries over, and its laid-out texts are
  admissible texts of the embedding.
-/
import Bebop.Proofs.Canon.LangWF
import Bebop.Proofs.Canon.Defs

namespace Bebop.Text

/-- a struct of the struct-only sub-language as a definition of the extended one -/
def CTop.ofStruct (s : CStruct) : CTop :=
  { doc := [], d := .struct none false s.name (s.fields.map fun f => { dep := none, ty := .name f.1 0, name := f.2 }) }

namespace Canon

theorem fieldsText_ofStruct (fs : List (Str × Str)) :
    fieldsText [9] (fs.map fun f => ({ dep := none, ty := .name f.1 0, name := f.2 } : CField)) =
      (fs.map fieldText).flatten ++ [125, 10] := by
  induction fs with
  | nil => rfl
  | cons f fs ih => simp [fieldsText, cmtText, depText, typeText, sufText, trailText, fieldText, ih]

theorem defText_ofStruct (s : CStruct) : defText (CTop.ofStruct s).d = structText s := by
  simp [CTop.ofStruct, defText, opText, structText, fieldsText_ofStruct]

theorem fileText_ofStructs (ss : List CStruct) (nl : Bool) :
    fileText nl (ss.map CTop.ofStruct) = (if nl && !ss.isEmpty then [10] else []) ++ canonText ss := by
  induction ss generalizing nl with
  | nil => simp [fileText, canonText]
  | cons s ss ih =>
    have hd : (CTop.ofStruct s).doc = [] := rfl
    have hn : nlAfter (CTop.ofStruct s).d = true := rfl
    simp only [List.map_cons, fileText, hd, hn, cmtText, List.isEmpty_nil, Bool.and_true, defText_ofStruct, ih]
    cases ss with
    | nil => cases nl <;> simp [canonText]
    | cons s' r => cases nl <;> simp [canonText]

theorem canonTextF_ofStructs (ss : List CStruct) : canonTextF (ss.map CTop.ofStruct) = canonText ss := by
  rw [canonTextF_eq_fileText, fileText_ofStructs]
  simp

theorem foldl_addDef_ofStructs (ss : List CStruct) (F : File) :
    (ss.map CTop.ofStruct).foldl addDef F = { F with structs := F.structs ++ ss.map cstructOf } := by
  induction ss generalizing F with
  | nil => simp
  | cons s ss ih =>
    simp only [List.map_cons, List.foldl_cons, ih]
    simp [addDef, addDefC, CTop.ofStruct, cstructOf, fieldOfC, docOf, joinLines, depMsgOf, ftOf, wrapArr, opVal,
      Function.comp_def, tagsOf]

theorem denote_ofStructs (ss : List CStruct) : denote (ss.map CTop.ofStruct) = fileOf ss := by
  simp [denote, foldl_addDef_ofStructs, fileOf]

theorem noDocAfterConst_ofStructs : ∀ (ss : List CStruct), noDocAfterConst (ss.map CTop.ofStruct)
  | [] => trivial
  | [_] => trivial
  | _ :: s' :: r => ⟨fun _ => rfl, noDocAfterConst_ofStructs (s' :: r)⟩

theorem cfileOk_ofStructs (ss : List CStruct) (h : ∀ s ∈ ss, CStructOk s) : CFileOk (ss.map CTop.ofStruct) := by
  have hmoved : ∀ d ∈ ss.map CTop.ofStruct, d.d.noMovedComments := by
    intro d hd
    obtain ⟨s, _, rfl⟩ := List.mem_map.1 hd
    trivial
  refine ⟨⟨?_, noDocAfterConst_ofStructs ss⟩, hmoved⟩
  intro d hd
  obtain ⟨s, hs, rfl⟩ := List.mem_map.1 hd
  have hs' := h s hs
  have hf : ∀ f ∈ (s.fields.map fun f => ({ dep := none, ty := .name f.1 0, name := f.2 } : CField)), CFieldOk f := by
    intro f hf
    obtain ⟨g, hg, rfl⟩ := List.mem_map.1 hf
    have := hs'.2 g hg
    exact ⟨fun c hc => (by cases hc), fun c hc => (by cases hc), fun m hm => (by cases hm), this.1, this.2⟩
  have hdef : CDefOk (CTop.ofStruct s).d := ⟨fun o ho => (by cases ho), hs'.1, hf⟩
  exact ⟨fun c hc => (by cases hc), fun _ => rfl, hdef⟩

/-! ### the layouts of `laidOut` are admissible

`LayOk` asks for a non-empty run in slots 1 and 6 only; everywhere else the neighbours cannot run together. -/

theorem laid_fields {v : Nat → Nat → List Byte} (hb : ∀ j k, Blanks (v j k)) (h6 : ∀ j, v j 6 ≠ []) (fs : List (Str × Str))
    {r : List Lexeme} {rest : List Byte} (h : Laid false r rest) :
    Laid false (fieldsLex [9] (fs.map fun f => ({ dep := none, ty := .name f.1 0, name := f.2 } : CField)) r)
      (layFields v fs rest) := by
  induction fs generalizing v with
  | nil => exact .cons (hb 0 9) nofun (.cons (hb 0 10) (fun _ _ => ss_nl) (by rwa [es_nl]))
  | cons f fs ih =>
    exact .cons (hb 0 5) nofun (.cons (hb 0 6) (fun e => absurd e (h6 0)) (.cons (hb 0 7) (fun _ _ => ss_semi)
      (.cons (hb 0 8) (fun _ _ => ss_nl) (by rw [es_nl]; exact ih (fun j => hb (j + 1)) fun j => h6 (j + 1)))))

theorem laid_struct {v : Nat → Nat → List Byte} (hb : ∀ j k, Blanks (v j k)) (h1 : v 0 1 ≠ []) (h6 : ∀ j, v j 6 ≠ [])
    (s : CStruct) {r : List Lexeme} {rest : List Byte} (h : Laid false r rest) :
    Laid false (defLex (CTop.ofStruct s).d r) (layStruct v s rest) :=
  .cons (hb 0 0) nofun (.cons (hb 0 1) (fun e => absurd e h1) (.cons (hb 0 2) (fun _ _ => ss_open)
    (.cons (hb 0 3) (fun _ _ => ss_nl)
      (by rw [es_nl]; exact laid_fields (fun j => hb (j + 1)) (fun j => h6 (j + 1)) s.fields h))))

theorem laid_tail (ss : List CStruct) {w : CLay} (hw : LayOk w) :
    Laid false (fileLex true (ss.map CTop.ofStruct)) (layTail w ss) := by
  induction ss generalizing w with
  | nil => exact Blanks.nil
  | cons s ss ih =>
    exact .cons (hw.blank 0 0 4) nofun
      (by rw [es_nl]; exact laid_struct (hw.blank 0) (hw.ne1 0 0) (hw.ne6 0) s (ih (layOk_shift hw)))

theorem laid_laidOut (ss : List CStruct) {w : CLay} (hw : LayOk w) :
    Laid false (fileLex false (ss.map CTop.ofStruct)) (laidOut w ss) := by
  cases ss with
  | nil => exact Blanks.nil
  | cons s ss => exact laid_struct (hw.blank 0) (hw.ne1 0 0) (hw.ne6 0) s (laid_tail ss (layOk_shift hw))

end Canon
end Bebop.Text
