/-
  Canon/FmtX: the Format model on the token list of a schema of the extended sub-language emits the
  canonical text of the schema.

  The texts are never written down: a lemma about a loop of the formatter says that what is written plus the
  text of the lexemes still to come (`renderC`) stays the same, so lemmas are put together by their lexemes alone.
  Where the model writes, an equation between two bracketings of one `++` chain is left; the lemmas under
  `chain` bring both sides to the same form.
-/
import Bebop.Proofs.Format
import Bebop.Proofs.Canon.Cursor
import Bebop.Proofs.Canon.LangWF
import Bebop.Proofs.Canon.SimpAttrs

namespace Bebop.Text
namespace Canon

variable {N : Nat}

attribute [chain] List.foldl_cons List.foldl_nil

/-- What a fuelled function of the formatter returns if it returns (`none`: its fuel ran out): some text `x`, at
    a reader state just behind a `}` with a line break and the lexemes `r` to come, such that `x` and the text of
    `r` make up `w`. -/
def Gives (N : Nat) (o : Option (List Byte × TR)) (w : List Byte) (r : List Lexeme) : Prop :=
  o = none ∨ ∃ x t', o = some (x, t') ∧ At N ⟨tClose, false, toks (⟨[], tNl⟩ :: r)⟩ t' ∧ x ++ renderC r = w

theorem Gives.text {o : Option (List Byte × TR)} {w w' : List Byte} {r : List Lexeme} (h : Gives N o w r)
    (e : w = w') : Gives N o w' r := e ▸ h

/-- The body loop `L`, entered with any fuel and with `acc` written at a reader state with the lexemes `ls` to come,
    stops behind the `}` in front of a line break and `r`; what is written then and the text of `r` make up `acc` and
    the text of `ls`. -/
def Appends (N : Nat) (L : Nat → TR → List Byte → Option (List Byte × TR)) (c : Token) (k : Bool)
    (ls r : List Lexeme) : Prop :=
  ∀ f t acc, At N ⟨c, k, toks ls⟩ t → Gives N (L f t acc) (acc ++ renderC ls) r

/-- A body loop answers `none` without fuel: only its rounds with fuel need looking at. -/
theorem Appends.step {L : Nat → TR → List Byte → Option (List Byte × TR)} {c : Token} {k : Bool} {ls r : List Lexeme}
    (h0 : ∀ {t acc}, L 0 t acc = none)
    (h : ∀ f t acc, At N ⟨c, k, toks ls⟩ t → Gives N (L (f + 1) t acc) (acc ++ renderC ls) r) : Appends N L c k ls r
  | 0, _, _, _ => .inl h0
  | f + 1, t, acc, ht => h f t acc ht

/-! ### the formatter's helpers -/

theorem nextConc_at {c x : Token} {k : Bool} {l : List Token} {t : TR} (h : At N ⟨c, k, x :: l⟩ t) :
    ∃ t', nextConc t = (x.concrete, t') ∧ At N ⟨x, false, l⟩ t' := by
  obtain ⟨t', hn, h'⟩ := h.next_cons
  exact ⟨t', by simp only [nextConc, hn, h'.tok], h'⟩

theorem takeToks_at (sep : List Byte) : ∀ (n : Nat) (ts : List Token), ts.length = n → ∀ {c : Token} {k : Bool}
    {l : List Token} {t : TR}, At N ⟨c, k, ts ++ l⟩ t →
    ∃ t', (∀ acc, takeToks sep n t acc = (ts.foldl (fun a tk => a ++ sep ++ tk.concrete) acc, t')) ∧
      At N ⟨ts.getLastD c, ts.isEmpty && k, l⟩ t'
  | _, [], rfl => fun h => ⟨_, fun _ => rfl, h⟩
  | _, x :: ts, rfl => fun h => by
    obtain ⟨t1, h1, ht1⟩ := nextConc_at h
    obtain ⟨t', h2, ht'⟩ := takeToks_at sep _ ts rfl ht1
    exact ⟨t', fun acc => by simp only [List.length_cons, takeToks, h1, List.foldl_cons, h2],
      by cases ts <;> exact ht'⟩

theorem strOfAscii_brackets : formatType.strOfAscii "[]" = [91, 93] := by decide

/-- the `[]` loop of formatType (`w`: what it returns, in the bracketing the caller has) -/
theorem suffix_fmt (x : Lexeme) (r : List Lexeme) (hx : x.tok.kind ≠ .openSquare) :
    ∀ (k f : Nat) (bs : List Byte) (c : Token) (b : Bool) (t : TR), At N ⟨c, b, toks (sufLex k (x :: r))⟩ t →
    ∀ w, bs ++ sufText k = w → formatType.arrSuffix f t bs = none ∨
      ∃ t', formatType.arrSuffix f t bs = some (w, t') ∧ At N ⟨x.tok, true, toks (x :: r)⟩ t'
  | _, 0 => fun _ _ _ _ _ _ _ => .inl rfl
  | 0, f + 1 => fun bs c b t h w e => by
    obtain ⟨t1, hn, h1⟩ := h.next_cons
    exact .inr ⟨_, by simp only [formatType.arrSuffix, hn, h1.tok, beq_eq_false_iff_ne.2 hx, Bool.and_false,
      Bool.false_eq_true, if_false, ← e, sufText, List.append_nil], h1.unNext⟩
  | k + 1, f + 1 => fun bs c b t h w e => by
    obtain ⟨t1, hn, h1⟩ := At.next_cons (x := tLB) h
    obtain ⟨t2, hn2, h2⟩ := h1.next_cons
    simp only [formatType.arrSuffix, hn, h1.tok, hn2, beq_self_eq_true, Bool.and_self, if_true]
    exact suffix_fmt x r hx k f _ _ _ t2 h2 w (by rw [← e, sufText, strOfAscii_brackets, List.append_assoc])

/-- formatType, entered right after `Next` has delivered the first token of the type, returns the text of the
    type -/
theorem type_fmt : ∀ (ty : CType) (f : Nat) (s : List Byte) (c : Token) (b : Bool) (x : Lexeme) (r : List Lexeme)
    (t : TR), x.tok.kind ≠ .openSquare → At N ⟨c, b, toks (typeLex ty s (x :: r))⟩ t →
    ∃ t1, next t = (true, t1) ∧ t1.nextTok.kind = firstKind ty ∧
      (formatType f t1 = none ∨
        ∃ t', formatType f t1 = some (typeText ty, t') ∧ At N ⟨x.tok, true, toks (x :: r)⟩ t')
  | ty, 0 => fun s c b x r t _ h => by
    obtain ⟨tk, r', e, hk⟩ := typeLex_first ty s (x :: r)
    rw [e] at h
    obtain ⟨t1, hn, h1⟩ := h.next_cons
    exact ⟨t1, hn, by rw [h1.tok, hk], .inl rfl⟩
  | .name n k, f + 1 => fun s c b x r t hx h => by
    obtain ⟨t1, hn, h1⟩ := At.next_cons (x := tId n) h
    exact ⟨t1, hn, by rw [h1.tok]; rfl, by simpa only [formatType, h1.tok, typeText] using suffix_fmt x r hx k f n _ _ t1 h1 _ rfl⟩
  | .array ty k, f + 1 => fun s c b x r t hx h => by
    obtain ⟨t1, hn, h1⟩ := At.next_cons (x := ⟨.kArray, kwArray⟩) h
    refine ⟨t1, hn, by rw [h1.tok]; rfl, ?_⟩
    obtain ⟨t2, h2, ht2⟩ := takeToks_at [] 1 [tLB] rfl h1
    obtain ⟨t3, hn3, _, h4⟩ := type_fmt ty f [] _ _ ⟨[], tRB⟩ (sufLex k (x :: r)) t2 (by decide) ht2
    simp only [formatType, h1.tok, h2, hn3]
    rcases h4 with e | ⟨t4, e, ht4⟩ <;> rw [e]
    · exact .inl rfl
    obtain ⟨t5, h5, ht5⟩ := nextConc_at ht4
    simp only [h5]
    exact suffix_fmt x r hx k f _ _ _ t5 ht5 _ (by
      simp only [chain, typeText])
  | .map key ty k, f + 1 => fun s c b x r t hx h => by
    obtain ⟨t1, hn, h1⟩ := At.next_cons (x := ⟨.kMap, kwMap⟩) h
    refine ⟨t1, hn, by rw [h1.tok]; rfl, ?_⟩
    obtain ⟨t2, h2, ht2⟩ := takeToks_at [] 3 [tLB, tId key, tComma] rfl h1
    obtain ⟨t3, hn3, _, h4⟩ := type_fmt ty f [32] _ _ ⟨[], tRB⟩ (sufLex k (x :: r)) t2 (by decide) ht2
    simp only [formatType, h1.tok, h2, hn3]
    rcases h4 with e | ⟨t4, e, ht4⟩ <;> rw [e]
    · exact .inl rfl
    obtain ⟨t5, h5, ht5⟩ := nextConc_at ht4
    simp only [h5]
    exact suffix_fmt x r hx k f _ _ _ t5 ht5 _ (by
      simp only [chain, typeText, List.cons_append])

/-! ### what the body loops of the formatter have in common -/

/-- What the body loops of the formatter have in common, as equations for one round of the loop (the loops are
    not monadic, so there is nothing to bind): without fuel `none`; a `//` line and an attribute line are written
    after the indentation `ind`, a line break is skipped, `}` ends the loop.  `FBody.nl`, `FBody.close` and
    `FBody.pre` say the same on cursors, as the fields of `Body` do for the parser. -/
structure FBody (ind : List Byte) (L : Nat → TR → List Byte → Option (List Byte × TR)) : Prop where
  zero : ∀ {t acc}, L 0 t acc = none
  cmt_eq : ∀ {f t t1 acc}, next t = (true, t1) → t1.nextTok.kind = .lineComment →
    L (f + 1) t acc = L f t1 (acc ++ ind ++ t1.nextTok.concrete)
  attr_eq : ∀ {f t t1 acc}, next t = (true, t1) → t1.nextTok.kind = .openSquare →
    L (f + 1) t acc = L f (fmtAttr ind t1).2 (acc ++ (fmtAttr ind t1).1)
  nl_eq : ∀ {f t t1 acc}, next t = (true, t1) → t1.nextTok.kind = .newline → L (f + 1) t acc = L f t1 acc
  close_eq : ∀ {f t t1 acc}, next t = (true, t1) → t1.nextTok.kind = .closeCurly →
    L (f + 1) t acc = some (acc ++ ind.dropLast ++ t1.nextTok.concrete ++ [10], t1)

variable {ind : List Byte} {L : Nat → TR → List Byte → Option (List Byte × TR)}

/-- A line break is written where the line ends; its token is skipped afterwards, by a round of the loop of its
    own. -/
theorem FBody.nl (B : FBody ind L) {ls r : List Lexeme} (hy : Appends N L tNl false ls r) {c : Token} {k : Bool}
    {t : TR} (h : At N ⟨c, k, toks (⟨[], tNl⟩ :: ls)⟩ t) :
    ∀ (f : Nat) (acc : List Byte), Gives N (L f t acc) (acc ++ renderC ls) r
  | 0, _ => .inl B.zero
  | f + 1, acc => by
    obtain ⟨t1, hn, h1⟩ := h.next_cons
    rw [B.nl_eq hn (by rw [h1.tok])]
    exact hy f t1 acc h1

theorem FBody.close (B : FBody ind L) {c : Token} {k : Bool} {r : List Lexeme} :
    Appends N L c k (⟨ind.dropLast, tClose⟩ :: ⟨[], tNl⟩ :: r) r := by
  refine Appends.step B.zero fun f t acc h => ?_
  obtain ⟨t1, hn, h1⟩ := h.next_cons
  exact .inr ⟨_, t1, by rw [B.close_eq hn (by rw [h1.tok]), h1.tok], h1,
    by simp only [chain]⟩

/-- the `//` lines and the `[deprecated("…")]` line in front of an item of a body -/
theorem FBody.pre (B : FBody ind L) (dep : Option Str) {ls r : List Lexeme} (hy : ∀ c' k', Appends N L c' k' ls r) :
    ∀ (doc : List Str) (c : Token) (k : Bool), Appends N L c k (docLex ind doc (depLex ind dep ls)) r
  | d :: doc, c, k => by
    refine Appends.step B.zero fun f t acc h => ?_
    obtain ⟨t1, hn, h1⟩ := At.next_cons (x := tCmt d) h
    rw [B.cmt_eq hn (by rw [h1.tok]), h1.tok]
    exact (B.pre dep hy doc _ _ f t1 _ h1).text (by simp only [chain, docLex])
  | [], c, k => by
    cases dep with
    | none => exact hy c k
    | some m =>
      refine Appends.step B.zero fun f t acc h => ?_
      obtain ⟨t1, hn, h1⟩ := At.next_cons (x := tLB) h
      obtain ⟨t2, h2, ht2⟩ := takeToks_at [] 5 [⟨.kDeprecated, kwDeprecated⟩, tLP, tStr m, tRP, tRB] rfl h1
      rw [B.attr_eq hn (by rw [h1.tok])]
      simp only [fmtAttr, h1.tok, h2]
      exact (B.nl (hy _ _) ht2 f _).text (by
        simp only [chain, docLex, depLex])

/-- a definition inside a body (`o`: what its formatter returns), and the line break after its `}` -/
theorem FBody.inner (B : FBody ind L) {ls r : List Lexeme} (hy : Appends N L tNl false ls r)
    {o : Option (List Byte × TR)} {w : List Byte} (ho : Gives N o w ls) (f : Nat) (acc : List Byte) :
    Gives N (match (generalizing := false) o with
      | none => none
      | some (x, t) => L f t (acc ++ x)) (acc ++ w) r := by
  rcases ho with rfl | ⟨x, t, rfl, h, rfl⟩
  · exact .inl rfl
  · exact (B.nl hy h f _).text (List.append_assoc ..)

/-! ### struct bodies -/

theorem sq_readonly : sq "readonly " = kwReadonly ++ [32] := by decide
theorem sq_semi : sq ";" = [59] := by decide
theorem sq_semi_nl : sq ";\n" = [59] ++ [10] := by decide

theorem structFBody (fuel : Nat) (ind : List Byte) : FBody ind (formatStruct.loop fuel ind) := by
  refine ⟨rfl, ?_, ?_, ?_, ?_⟩ <;> (intro f t t1 acc hn hk; rw [formatStruct.loop]; simp only [hn, hk])

/-- one field line (after its doc and attribute lines) -/
theorem field_fmt (fuel : Nat) (ind : List Byte) (ty : CType) (name : Str) (trail : Option Str)
    (ls : List Lexeme) (c : Token) (k : Bool) {r : List Lexeme}
    (hy : ∀ c', Appends N (formatStruct.loop fuel ind) c' false ls r) :
    Appends N (formatStruct.loop fuel ind) c k
      (typeLex ty ind (⟨[32], tId name⟩ :: ⟨[], tSemi⟩ :: trailLex trail ls)) r := by
  refine Appends.step rfl fun f t acc h => ?_
  obtain ⟨t1, hn, hk1, h2⟩ := type_fmt ty fuel ind _ _ ⟨[32], tId name⟩ _ t (by intro h; cases h) h
  rcases h2 with e2 | ⟨t2, e2, ht2⟩
  · exact .inl (by rw [formatStruct.loop]; cases ty <;> simp only [hn, hk1, firstKind, e2])
  obtain ⟨t3, h3, ht3⟩ := nextConc_at ht2
  obtain ⟨t4, hn4, ht4⟩ := At.next_cons (x := tSemi) ht3
  -- the round of the loop that writes the field, stated once (`split` does not scale on the `match` over all token kinds)
  have hstep : ∀ t5, next t4 = (true, t5) → formatStruct.loop fuel ind (f + 1) t acc =
      if t5.nextTok.kind == .lineComment then
        formatStruct.loop fuel ind f t5 (acc ++ (ind ++ typeText ty ++ [32] ++ name ++ [59]) ++ [32] ++ t5.nextTok.concrete)
      else formatStruct.loop fuel ind f { t5 with keep := true } (acc ++ (ind ++ typeText ty ++ [32] ++ name ++ [59]) ++ [10]) := by
    intro t5 hn5
    rw [formatStruct.loop]
    cases ty <;> simp only [hn, hk1, firstKind, e2, h3, hn4, hn5, sq_semi]
  cases trail with
  | some d =>
    obtain ⟨t5, hn5, ht5⟩ := At.next_cons (x := tCmt d) ht4
    rw [hstep t5 hn5, if_pos (by rw [ht5.tok]; rfl), ht5.tok]
    exact (hy _ f t5 _ ht5).text
      (by simp only [chain, renderC_typeLex, trailLex])
  | none =>
    obtain ⟨t5, hn5, ht5⟩ := At.next_cons (x := tNl) ht4
    rw [hstep t5 hn5, if_neg (by rw [ht5.tok]; intro h; cases h)]
    exact ((structFBody fuel ind).nl (hy _) ht5.unNext f _).text
      (by simp only [chain, renderC_typeLex, trailLex])

theorem fields_fmt (fuel : Nat) (ind : List Byte) (r : List Lexeme) : ∀ (fs : List CField) (c : Token) (k : Bool),
    Appends N (formatStruct.loop fuel ind) c k (fieldsLex ind fs r) r
  | [], _, _ => (structFBody fuel ind).close
  | g :: fs, c, k =>
    (structFBody fuel ind).pre g.dep (fun c' k' => field_fmt fuel ind g.ty g.name g.trail _ c' k'
      fun c'' => fields_fmt fuel ind r fs c'' false) g.doc c k

/-- formatStruct (the `struct` keyword has just been read) -/
theorem struct_fmt (fuel : Nat) (ro : Bool) (ind : List Byte) (name : Str) (fs : List CField)
    (r : List Lexeme) (k : Bool) (t : TR)
    (h : At N ⟨⟨.kStruct, kwStruct⟩, k, toks (⟨[32], tId name⟩ :: ⟨[32], tOpen⟩ :: ⟨[], tNl⟩ :: fieldsLex ind fs r)⟩ t) :
    Gives N (formatStruct fuel t ro ind)
      ((if ro then kwReadonly ++ [32] else []) ++
        (kwStruct ++ renderC (⟨[32], tId name⟩ :: ⟨[32], tOpen⟩ :: ⟨[], tNl⟩ :: fieldsLex ind fs r))) r := by
  obtain ⟨t1, h1, ht1⟩ := takeToks_at [32] 2 [tId name, tOpen] rfl h
  simp only [formatStruct, h.tok, h1, sq_readonly]
  exact ((structFBody fuel ind).nl (fields_fmt fuel ind r fs _ _) ht1 fuel _).text
    (by simp only [chain])

/-! ### message bodies -/

theorem messageFBody (fuel : Nat) (ind : List Byte) : FBody ind (formatMessage.loop fuel ind) := by
  refine ⟨rfl, ?_, ?_, ?_, ?_⟩ <;> (intro f t t1 acc hn hk; rw [formatMessage.loop]; simp only [hn, hk])

/-- one message field line (after its doc and attribute lines) and its line break -/
theorem msgField_fmt (fuel : Nat) (ind : List Byte) (idx : Str) (ty : CType) (name : Str) (trail : Option Str)
    (htr : trail = none) (ls : List Lexeme) (c : Token) (k : Bool) {r : List Lexeme}
    (hy : Appends N (formatMessage.loop fuel ind) tNl false ls r) :
    Appends N (formatMessage.loop fuel ind) c k (⟨ind, tNum idx⟩ :: ⟨[32], tArrow⟩ ::
      typeLex ty [32] (⟨[32], tId name⟩ :: ⟨[], tSemi⟩ :: trailLex trail ls)) r := by
  subst htr
  refine Appends.step rfl fun f t acc h => ?_
  obtain ⟨t1, hn1, h1⟩ := At.next_cons (x := tNum idx) h
  obtain ⟨t2, h2, ht2⟩ := nextConc_at (x := tArrow) h1
  obtain ⟨t3, hn3, _, h4⟩ := type_fmt ty fuel [32] _ _ ⟨[32], tId name⟩ _ t2 (by intro h; cases h) ht2
  rw [formatMessage.loop]
  simp only [hn1, h1.tok, h2, hn3]
  rcases h4 with e4 | ⟨t4, e4, ht4⟩ <;> simp only [e4]
  · exact .inl rfl
  obtain ⟨t5, h5, ht5⟩ := nextConc_at ht4
  obtain ⟨t6, hn6, ht6⟩ := At.next_cons (x := tSemi) ht5
  simp only [h5, hn6, sq_semi_nl]
  exact ((messageFBody fuel ind).nl hy ht6 f _).text
    (by simp only [chain, renderC_typeLex, trailLex])

theorem msgFields_fmt (fuel : Nat) (ind : List Byte) (r : List Lexeme) : ∀ (gs : List CMsgField) (c : Token) (k : Bool),
    (∀ g ∈ gs, g.trail = none) → Appends N (formatMessage.loop fuel ind) c k (msgFieldsLex ind gs r) r
  | [], _, _, _ => (messageFBody fuel ind).close
  | g :: gs, c, k, htr =>
    (messageFBody fuel ind).pre g.dep (fun c' k' =>
      msgField_fmt fuel ind g.idx g.ty g.name g.trail (htr g List.mem_cons_self) _ c' k'
        (msgFields_fmt fuel ind r gs _ _ fun x hx => htr x (List.mem_cons_of_mem _ hx))) g.doc c k

/-- formatMessage (the `message` keyword has just been read) -/
theorem message_fmt (fuel : Nat) (ind : List Byte) (name : Str) (gs : List CMsgField)
    (htr : ∀ g ∈ gs, g.trail = none) (r : List Lexeme) (k : Bool) (t : TR)
    (h : At N ⟨⟨.kMessage, kwMessage⟩, k,
      toks (⟨[32], tId name⟩ :: ⟨[32], tOpen⟩ :: ⟨[], tNl⟩ :: msgFieldsLex ind gs r)⟩ t) :
    Gives N (formatMessage fuel t ind)
      (kwMessage ++ renderC (⟨[32], tId name⟩ :: ⟨[32], tOpen⟩ :: ⟨[], tNl⟩ :: msgFieldsLex ind gs r)) r := by
  obtain ⟨t1, h1, ht1⟩ := takeToks_at [32] 2 [tId name, tOpen] rfl h
  simp only [formatMessage, h.tok, h1]
  exact ((messageFBody fuel ind).nl (msgFields_fmt fuel ind r gs _ _ htr) ht1 fuel _).text
    (by simp only [chain])

/-! ### enums -/

/-- the value loop of `formatEnum` over tokens that are not semicolons: one blank before every token except
    directly after `(` and directly before `)`.  This loop answers wrongly when its fuel runs out. -/
theorem optValue_at : ∀ (ts : List Token) (f : Nat), ts.length < f → (∀ tk ∈ ts, (tk.kind == TK.semicolon) = false) →
    ∀ (prev : TK) {c : Token} {k : Bool} {l : List Token} {t : TR}, At N ⟨c, k, ts ++ tSemi :: l⟩ t →
    ∃ t', At N ⟨tSemi, false, l⟩ t' ∧ ∀ acc, formatEnum.optValue f t prev acc = (acc ++ spText prev ts, t')
  | _, 0, hf => by omega
  | [], f + 1, _ => fun _ prev _ _ _ _ h => by
    obtain ⟨t1, hn, h1⟩ := At.next_cons (x := tSemi) h
    exact ⟨t1, h1, fun acc => by
      rw [formatEnum.optValue]; simp only [hn, h1.tok, beq_self_eq_true, if_true, spText, List.append_nil]⟩
  | tk :: ts, f + 1, hf => fun hts prev _ _ _ _ h => by
    obtain ⟨t1, hn, h1⟩ := At.next_cons (x := tk) h
    obtain ⟨t', h', e⟩ := optValue_at ts f (by simp only [List.length_cons] at hf; omega)
      (fun x hx => hts x (List.mem_cons_of_mem _ hx)) tk.kind h1
    refine ⟨t', h', fun acc => ?_⟩
    rw [formatEnum.optValue]
    simp only [hn, h1.tok, hts tk List.mem_cons_self, Bool.false_eq_true, if_false, e, spText, List.append_assoc]

theorem enumFBody (fuel : Nat) : FBody [9] (formatEnum.loop fuel) := by
  refine ⟨rfl, ?_, ?_, ?_, ?_⟩ <;>
    (intro f t t1 acc hn hk; rw [formatEnum.loop]; simp only [hn, hk, List.dropLast_singleton, List.append_nil])

/-- one member line (after its doc and attribute lines) and its line break; `hN`: the fuel of the value loop
    exceeds the number of tokens to come -/
theorem enumOpt_fmt (fuel : Nat) (hN : N + 1 < fuel) (o : CEnumOpt) (ls : List Lexeme) (c : Token) (k : Bool)
    {r : List Lexeme} (hy : Appends N (formatEnum.loop fuel) tNl false ls r) :
    Appends N (formatEnum.loop fuel) c k
      (⟨[9], tId o.name⟩ :: spLex .ident (tEq :: o.val.map ETok.tok) (⟨[], tSemi⟩ :: ⟨[], tNl⟩ :: ls)) r := by
  refine Appends.step rfl fun f t acc h => ?_
  rw [show toks (⟨[9], tId o.name⟩ :: spLex .ident (tEq :: o.val.map ETok.tok) (⟨[], tSemi⟩ :: ⟨[], tNl⟩ :: ls)) =
    tId o.name :: ((tEq :: o.val.map ETok.tok) ++ tSemi :: toks (⟨[], tNl⟩ :: ls)) by simp [toks_spLex]] at h
  obtain ⟨t1, hn1, h1⟩ := h.next_cons
  have hlen := h1.up_le
  obtain ⟨t2, h2, e2⟩ := optValue_at (tEq :: o.val.map ETok.tok) fuel
    (by simp only [List.length_append, List.length_cons] at hlen ⊢; omega)
    (by intro tk htk
        rcases List.mem_cons.1 htk with rfl | htk
        · rfl
        · obtain ⟨e, _, rfl⟩ := List.mem_map.1 htk; exact etok_not_semi e)
    .ident h1
  rw [formatEnum.loop]
  simp only [hn1, h1.tok, e2, sq_semi_nl]
  exact ((enumFBody fuel).nl hy h2 f _).text
    (by simp only [chain, renderC_spLex])

theorem enumOpts_fmt (fuel : Nat) (hN : N + 1 < fuel) (r : List Lexeme) : ∀ (os : List CEnumOpt) (c : Token) (k : Bool),
    Appends N (formatEnum.loop fuel) c k (enumOptsLex os r) r
  | [], _, _ => (enumFBody fuel).close
  | o :: os, c, k =>
    (enumFBody fuel).pre o.dep (fun c' k' => enumOpt_fmt fuel hN o _ c' k' (enumOpts_fmt fuel hN r os _ _)) o.doc c k

/-- formatEnum (the `enum` keyword has just been read) -/
theorem enum_fmt (fuel : Nat) (hN : N + 1 < fuel) (name : Str) (base : Option Str) (os : List CEnumOpt)
    (r : List Lexeme) (k : Bool) (t : TR)
    (h : At N ⟨⟨.kEnum, kwEnum⟩, k, toks (⟨[32], tId name⟩ :: baseLex base (⟨[32], tOpen⟩ :: ⟨[], tNl⟩ :: enumOptsLex os r))⟩ t) :
    Gives N (formatEnum fuel t)
      (kwEnum ++ renderC (⟨[32], tId name⟩ :: baseLex base (⟨[32], tOpen⟩ :: ⟨[], tNl⟩ :: enumOptsLex os r))) r := by
  simp only [formatEnum]
  cases base with
  | none =>
    obtain ⟨t1, h1, ht1⟩ := takeToks_at [32] 2 [tId name, tOpen] rfl h
    simp only [h.tok, h1, show t1.nextTok = tOpen from ht1.tok,
      show (TK.openCurly == TK.colon) = false from rfl, Bool.false_eq_true, if_false]
    exact ((enumFBody fuel).nl (enumOpts_fmt fuel hN r os _ _) ht1 fuel _).text
      (by simp only [chain, baseLex])
  | some b =>
    obtain ⟨t1, h1, ht1⟩ := takeToks_at [32] 2 [tId name, tColon] rfl h
    obtain ⟨t2, h2, ht2⟩ := takeToks_at [32] 2 [tId b, tOpen] rfl ht1
    simp only [h.tok, h1, show t1.nextTok = tColon from ht1.tok,
      beq_self_eq_true, if_true, h2]
    exact ((enumFBody fuel).nl (enumOpts_fmt fuel hN r os _ _) ht2 fuel _).text
      (by simp only [chain, baseLex])

/-! ### unions -/

theorem unionFBody (fuel : Nat) : FBody [9] (formatUnion.loop fuel [9]) := by
  refine ⟨rfl, ?_, ?_, ?_, ?_⟩ <;> (intro f t t1 acc hn hk; rw [formatUnion.loop]; simp only [hn, hk])

/-- a member (after its doc and attribute lines) and the line break after its `}` -/
theorem member_fmt (fuel : Nat) (m : CUMember) (htr : m.noMoved) (ls : List Lexeme) (c : Token) (k : Bool)
    {r : List Lexeme} (hy : Appends N (formatUnion.loop fuel [9]) tNl false ls r) :
    Appends N (formatUnion.loop fuel [9]) c k (memberBodyLex m ls) r := by
  refine Appends.step rfl fun f t acc h => ?_
  obtain ⟨t1, hn1, h1⟩ := At.next_cons (x := tNum m.idx) h
  obtain ⟨t2, h2, ht2⟩ := nextConc_at (x := tArrow) h1
  rw [formatUnion.loop]
  cases m with
  | struct doc dep idx name fs =>
    obtain ⟨t3, hn3, h3⟩ := At.next_cons (x := ⟨.kStruct, kwStruct⟩) ht2
    simp only [hn1, h1.tok, h2, hn3, h3.tok, show ([9] ++ [9] : List Byte) = [9, 9] from rfl]
    exact ((unionFBody fuel).inner hy (struct_fmt fuel false [9, 9] name fs _ _ t3 h3) f _).text
      (by simp only [chain, memberBodyLex, memberDefLex, structLex, CUMember.idx, Bool.false_eq_true, if_false])
  | message doc dep idx name gs =>
    obtain ⟨t3, hn3, h3⟩ := At.next_cons (x := ⟨.kMessage, kwMessage⟩) ht2
    simp only [hn1, h1.tok, h2, hn3, h3.tok, show ([9] ++ [9] : List Byte) = [9, 9] from rfl]
    exact ((unionFBody fuel).inner hy (message_fmt fuel [9, 9] name gs htr _ _ t3 h3) f _).text
      (by simp only [chain, memberBodyLex, memberDefLex, messageLex, CUMember.idx])

theorem members_fmt (fuel : Nat) (r : List Lexeme) : ∀ (ms : List CUMember) (c : Token) (k : Bool),
    (∀ m ∈ ms, m.noMoved) → Appends N (formatUnion.loop fuel [9]) c k (membersLex ms r) r
  | [], _, _, _ => (unionFBody fuel).close
  | m :: ms, c, k, htr => by
    rw [membersLex, memberLex_eq]
    exact (unionFBody fuel).pre m.dep (fun c' k' => member_fmt fuel m (htr m List.mem_cons_self) _ c' k'
      (members_fmt fuel r ms _ _ fun x hx => htr x (List.mem_cons_of_mem _ hx))) m.doc c k

/-- formatUnion (the `union` keyword has just been read) -/
theorem union_fmt (fuel : Nat) (name : Str) (ms : List CUMember) (htr : ∀ m ∈ ms, m.noMoved)
    (r : List Lexeme) (k : Bool) (t : TR)
    (h : At N ⟨⟨.kUnion, kwUnion⟩, k, toks (⟨[32], tId name⟩ :: ⟨[32], tOpen⟩ :: ⟨[], tNl⟩ :: membersLex ms r)⟩ t) :
    Gives N (formatUnion fuel t [9])
      (kwUnion ++ renderC (⟨[32], tId name⟩ :: ⟨[32], tOpen⟩ :: ⟨[], tNl⟩ :: membersLex ms r)) r := by
  obtain ⟨t1, h1, ht1⟩ := takeToks_at [32] 2 [tId name, tOpen] rfl h
  simp only [formatUnion, h.tok, h1]
  exact ((unionFBody fuel).nl (members_fmt fuel r ms _ _ htr) ht1 fuel _).text
    (by simp only [chain])

/-! ### the top-level loop -/

/-- What the top-level loop returns if it returns (`none`: its fuel ran out). -/
def Ends (o : Option (List Byte)) (w : List Byte) : Prop := o = none ∨ o = some w

theorem Ends.text {o : Option (List Byte)} {w w' : List Byte} (h : Ends o w) (e : w = w') : Ends o w' := e ▸ h

/-- The top-level loop, entered with any fuel at a reader state with cursor `s` after `out` has been written, ends
    with `out ++ x` written. -/
def Top (N fuel : Nat) (s : Cur) (ro nl : Bool) (x : List Byte) : Prop :=
  ∀ f t out, At N s t → Ends (formatLoop fuel f t out ro nl) (out ++ x)

theorem Top.step {fuel : Nat} {s : Cur} {ro nl : Bool} {x : List Byte}
    (h : ∀ f t out, At N s t → Ends (formatLoop fuel (f + 1) t out ro nl) (out ++ x)) : Top N fuel s ro nl x
  | 0, _, _, _ => .inl rfl
  | f + 1, t, out, ht => h f t out ht

theorem top_nl_fmt {fuel : Nat} {c : Token} {k ro nl : Bool} {l : List Token} {y : List Byte}
    (hy : Top N fuel ⟨tNl, false, l⟩ false nl y) : Top N fuel ⟨c, k, tNl :: l⟩ ro nl y := by
  refine Top.step fun f t out h => ?_
  obtain ⟨t1, hn, h1⟩ := h.next_cons
  rw [formatLoop]
  simp only [hn, h1.tok]
  exact hy f t1 out h1

theorem top_end_fmt (fuel : Nat) (c : Token) (k ro nl : Bool) : Top N fuel ⟨c, k, []⟩ ro nl [] := by
  refine Top.step fun f t out h => ?_
  obtain ⟨t1, hn, _⟩ := h.next_nil
  exact .inr (by rw [formatLoop]; simp only [hn, List.append_nil])

/-- the `[opcode(…)]` line, if any, and its line break -/
theorem top_op_fmt (fuel : Nat) (op : Option OpLit) {ls : List Lexeme} {c : Token} {k nl : Bool}
    (hy : ∀ c' k' nl', Top N fuel ⟨c', k', toks ls⟩ false nl' ((if nl' then [10] else []) ++ renderC ls)) :
    Top N fuel ⟨c, k, toks (opLex op ls)⟩ false nl ((if nl then [10] else []) ++ renderC (opLex op ls)) := by
  cases op with
  | none => exact hy c k nl
  | some o =>
    refine Top.step fun f t out h => ?_
    obtain ⟨t0, hn0, h0⟩ := At.next_cons (x := tLB) h
    obtain ⟨t1, e1, h1⟩ := takeToks_at [] 1 [⟨.kOpCode, kwOpcode⟩] rfl h0
    obtain ⟨t2, e2, h2⟩ := takeToks_at [] 4 [tLP, opLitTok o, tRP, tRB] rfl h1
    rw [formatLoop]
    simp only [hn0, h0.tok, e1, show t1.nextTok = ⟨.kOpCode, kwOpcode⟩ from h1.tok,
      show (TK.kOpCode == TK.kFlags) = false by decide, Bool.false_eq_true, if_false,
      e2]
    exact (top_nl_fmt (ro := false) (hy _ _ false) f t2 _ h2).text (by
      simp only [chain, opLex, Bool.false_eq_true, if_false])

/-- the `[flags]` line, if any, and its line break -/
theorem top_flags_fmt (fuel : Nat) (fl : Bool) {ls : List Lexeme} {c : Token} {k nl : Bool}
    (hy : ∀ c' k' nl', Top N fuel ⟨c', k', toks ls⟩ false nl' ((if nl' then [10] else []) ++ renderC ls)) :
    Top N fuel ⟨c, k, toks (flagsLex fl ls)⟩ false nl ((if nl then [10] else []) ++ renderC (flagsLex fl ls)) := by
  cases fl with
  | false => exact hy c k nl
  | true =>
    refine Top.step fun f t out h => ?_
    obtain ⟨t0, hn0, h0⟩ := At.next_cons (x := tLB) h
    obtain ⟨t1, e1, h1⟩ := takeToks_at [] 1 [⟨.kFlags, kwFlags⟩] rfl h0
    obtain ⟨t2, e2, h2⟩ := takeToks_at [] 1 [tRB] rfl h1
    rw [formatLoop]
    simp only [hn0, h0.tok, e1, show t1.nextTok = ⟨.kFlags, kwFlags⟩ from h1.tok,
      beq_self_eq_true, if_true, e2]
    exact (top_nl_fmt (ro := false) (hy _ _ false) f t2 _ h2).text (by
      simp only [chain, flagsLex, Bool.false_eq_true, if_false])

/-- a definition with a body at top level (`kw`: its keyword, `g`: its formatter), and the line break after its `}` -/
theorem top_body_fmt (fuel : Nat) {kw : Token} {ro : Bool} {g : TR → Option (List Byte × TR)}
    (hkw : ∀ {f t t1 out nl}, next t = (true, t1) → t1.nextTok = kw →
      formatLoop fuel (f + 1) t out ro nl =
        match g t1 with
        | none => none
        | some (e, t2) => formatLoop fuel f t2 (out ++ (if nl then [10] else []) ++ e) false true)
    {ls r : List Lexeme} {w : List Byte} (hg : ∀ t, At N ⟨kw, false, toks ls⟩ t → Gives N (g t) w r)
    (hy : Top N fuel ⟨tNl, false, toks r⟩ false true (renderC r)) {c : Token} {k nl : Bool} :
    Top N fuel ⟨c, k, kw :: toks ls⟩ ro nl ((if nl then [10] else []) ++ w) := by
  refine Top.step fun f t out h => ?_
  obtain ⟨t1, hn, h1⟩ := h.next_cons
  rw [hkw hn h1.tok]
  rcases hg t1 h1 with e | ⟨x, t2, e, h2, rfl⟩ <;> rw [e]
  · exact .inl rfl
  exact (top_nl_fmt (ro := false) hy f t2 _ h2).text (by simp only [List.append_assoc])

/-- a definition (after its doc lines); `hN`: the fuel exceeds the number of tokens to come -/
theorem def_fmt (fuel : Nat) (hN : N + 1 < fuel) (d : CDef) (hmv : d.noMovedComments) {r : List Lexeme}
    (hy : ∀ c', Top N fuel ⟨c', false, toks r⟩ false (nlAfter d) (renderC r)) (c : Token) (k nl : Bool) :
    Top N fuel ⟨c, k, toks (defLex d r)⟩ false nl ((if nl then [10] else []) ++ renderC (defLex d r)) := by
  cases d with
  | struct op ro name fs =>
    refine top_op_fmt fuel op fun c' k' nl' => ?_
    cases ro with
    | false =>
      exact top_body_fmt fuel (g := fun t => formatStruct fuel t false [9]) (fun hn hk => by rw [formatLoop]; simp only [hn, hk]; rfl)
        (struct_fmt fuel false [9] name fs r _) (hy _)
    | true =>
      refine Top.step fun f t out h => ?_
      obtain ⟨t0, hn0, h0⟩ := At.next_cons (x := ⟨.kReadOnly, kwReadonly⟩) h
      rw [formatLoop]
      simp only [hn0, h0.tok]
      exact (top_body_fmt fuel (g := fun t => formatStruct fuel t true [9]) (fun hn hk => by rw [formatLoop]; simp only [hn, hk]; rfl)
        (struct_fmt fuel true [9] name fs r _) (hy _) f t0 out h0).text
        (by simp only [chain, structLex, if_true])
  | message op name gs =>
    exact top_op_fmt fuel op fun c' k' nl' =>
      top_body_fmt fuel (g := fun t => formatMessage fuel t [9]) (fun hn hk => by rw [formatLoop]; simp only [hn, hk]; rfl)
        (message_fmt fuel [9] name gs hmv r _) (hy _)
  | union op name ms =>
    exact top_op_fmt fuel op fun c' k' nl' =>
      top_body_fmt fuel (g := fun t => formatUnion fuel t [9]) (fun hn hk => by rw [formatLoop]; simp only [hn, hk]; rfl)
        (union_fmt fuel name ms hmv r _) (hy _)
  | enum fl name base os =>
    exact top_flags_fmt fuel fl fun c' k' nl' =>
      top_body_fmt fuel (g := fun t => formatEnum fuel t) (fun hn hk => by rw [formatLoop]; simp only [hn, hk]; rfl)
        (enum_fmt fuel hN name base os r _) (hy _)
  | const name v =>
    refine Top.step fun f t out h => ?_
    obtain ⟨t1, hn, h1⟩ := At.next_cons (x := ⟨.kConst, kwConst⟩) h
    obtain ⟨t2, e2, h2⟩ := takeToks_at [32] 4 [tId (constTy v), tId name, tEq, constValTok v] rfl h1
    obtain ⟨t3, hn3, h3⟩ := At.next_cons (x := tSemi) h2
    rw [formatLoop]
    simp only [hn, h1.tok, formatConst, e2, hn3, sq_semi]
    exact (hy _ f t3 _ h3).text (by
      simp only [chain, defLex])
  | import_ path =>
    refine Top.step fun f t out h => ?_
    obtain ⟨t1, hn, h1⟩ := At.next_cons (x := ⟨.kImport, kwImport⟩) h
    obtain ⟨t2, e2, h2⟩ := takeToks_at [32] 1 [tStr path] rfl h1
    rw [formatLoop]
    simp only [hn, h1.tok, e2]
    exact (top_nl_fmt (ro := false) (hy _) f t2 _ h2).text (by
      simp only [chain, defLex])

/-- the empty line, if one is pending and no `// doc` line follows, and the `// doc` lines at top level; after
    these no empty line is pending -/
theorem top_doc_fmt (fuel : Nat) {ls : List Lexeme} : ∀ (cs : List Str) (nl : Bool) (c : Token) (k : Bool),
    (∀ c' k', Top N fuel ⟨c', k', toks ls⟩ false (nl && cs.isEmpty)
      ((if nl && cs.isEmpty then [10] else []) ++ renderC ls)) →
    Top N fuel ⟨c, k, toks ((if nl && cs.isEmpty then [⟨[], tNl⟩] else []) ++ docLex [] cs ls)⟩ false nl
      (renderC ((if nl && cs.isEmpty then [⟨[], tNl⟩] else []) ++ docLex [] cs ls))
  | [] => fun nl c k hy => by
    cases nl with
    | false => exact hy c k
    | true => exact top_nl_fmt (hy _ _)
  | d :: cs => fun nl c k hy => by
    rw [show (nl && (d :: cs).isEmpty) = false from Bool.and_false nl] at hy ⊢
    refine Top.step fun f t out h => ?_
    obtain ⟨t1, hn, h1⟩ := At.next_cons (x := tCmt d) h
    rw [formatLoop]
    simp only [hn, h1.tok]
    exact (top_doc_fmt fuel cs false _ _ hy f t1 _ h1).text (by simp only [chain, docLex]; rfl)

theorem file_fmt (fuel : Nat) (hN : N + 1 < fuel) : ∀ (ds : CFile) (nl : Bool) (c : Token) (k : Bool),
    (∀ d ∈ ds, d.d.noMovedComments) → Top N fuel ⟨c, k, toks (fileLex nl ds)⟩ false nl (renderC (fileLex nl ds))
  | [], nl, c, k, _ => top_end_fmt fuel c k false nl
  | d :: ds, nl, c, k, hmv =>
    top_doc_fmt fuel d.doc nl c k fun c' k' => def_fmt fuel hN d.d (hmv d List.mem_cons_self)
      (fun c'' => file_fmt fuel hN ds (nlAfter d.d) c'' false fun x hx => hmv x (List.mem_cons_of_mem _ hx)) c' k' _

/-- Format emits the canonical text on every admissible text of a well-formed schema. -/
theorem format_laid (f : CFile) (hf : CFileOk f) {bs : List Byte} (hl : Laid false (fileLex false f) bs) :
    format bs = some (canonTextF f) := by
  have htot := format_total bs
  have := file_fmt (N := bs.length) (2 * bs.length + 4) (by omega) f false _ _ hf.2 (2 * bs.length + 4) _ []
    (lex_schema f hf.1 hl).at
  simp only [format] at htot ⊢
  rcases this with e | e
  · rw [e] at htot; cases htot
  · rw [e]; rfl

end Canon
end Bebop.Text
