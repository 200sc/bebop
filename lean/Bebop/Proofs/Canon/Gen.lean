/-
  Canon/Gen: lexeme lists and their texts.

  A schema is turned into a list of `Lexeme`s (a token together with the run of blanks the canonical text
  puts in front of it).  `renderC` concatenates them (the canonical text), `render w` replaces the run in
  front of the k-th token by `w k` (an arbitrary layout).  `Laid p l bs` says that the text `bs` is `l` written
  with arbitrary runs of blanks, none left out where two neighbours would run together; the generic lexing
  theorem `lex_laid` says that the tokenizer model delivers every such text as exactly the tokens of the list,
  and `WFL.laid` that the layouts of `LayoutOk` (a non-empty run wherever the canonical text has one) are of
  this kind.
-/
import Bebop.Proofs.Canon.Lexer
import Bebop.Proofs.Canon.SimpAttrs

namespace Bebop.Text

/-- The tokens of the sub-language, with the bytes they are written with. -/
inductive TokOk : Token → Prop
  | word (s : List Byte) : identBytes s = true → TokOk { kind := (keywordKind s).getD .ident, concrete := s }
  | single (c : Byte) (k : TK) : isBlank c = false → singleByteKind c = some k → TokOk { kind := k, concrete := [c] }
  | arrow : TokOk { kind := .arrow, concrete := [45, 62] }
  | num (s : List Byte) : numLitOk s = true → TokOk { kind := .intLit, concrete := s }
  | str (s : List Byte) : strBodyOk s = true → TokOk { kind := .strLit, concrete := 34 :: (s ++ [34]) }
  | comment (s : List Byte) : commentBodyOk s = true →
      TokOk { kind := .lineComment, concrete := 47 :: 47 :: (s ++ [10]) }
  | shl : TokOk { kind := .dblLeft, concrete := [60, 60] }
  | shr : TokOk { kind := .dblRight, concrete := [62, 62] }
  | float (neg : Bool) (ip fp : List Byte) : ip ≠ [] → ip.all isNumeric = true → fp ≠ [] → fp.all isNumeric = true →
      TokOk { kind := .floatLit, concrete := (if neg then [45] else []) ++ (ip ++ 46 :: fp) }
  | negInf : TokOk { kind := .negInf, concrete := [45, 105, 110, 102] }

/-- A token and the blanks the canonical text writes in front of it. -/
structure Lexeme where
  sep : List Byte
  tok : Token

abbrev toks (l : List Lexeme) : List Token := l.map (·.tok)

def renderC : List Lexeme → List Byte
  | [] => []
  | lx :: r => lx.sep ++ (lx.tok.concrete ++ renderC r)

/-- the lexeme list written with the layout `w` (run number `n + k` in front of the k-th token; one more
    run at the very end) -/
def render (w : Nat → List Byte) : Nat → List Lexeme → List Byte
  | n, [] => w n
  | n, lx :: r => w n ++ (lx.tok.concrete ++ render w (n + 1) r)

/-- Admissible layouts: every run consists of blanks (space, tab, CR), and wherever the canonical text has
    a blank the layout has a non-empty run. -/
structure LayoutOk (w : Nat → List Byte) (l : List Lexeme) : Prop where
  blank : ∀ k, ∀ c ∈ w k, isBlank c = true
  keep : ∀ k lx, l[k]? = some lx → lx.sep ≠ [] → w k ≠ []

def canonW (l : List Lexeme) : Nat → List Byte := fun k =>
  match l[k]? with
  | some lx => lx.sep
  | none => []

-- `↓`: from the root, so that a chain takes one step for every `++` and not one for every pair
attribute [chain] renderC List.nil_append
attribute [chain ↓] List.append_assoc

namespace Canon

/-! ### admissible layouts and the generic lexing theorem -/

/-- `bs` is the lexeme list written with arbitrary runs of blanks, none left out where its two neighbours would
    run together (`p`: the token before ends in a letter, digit or underscore). The runs of the canonical text
    play no part: this is all the tokenizer needs. -/
def Laid : Bool → List Lexeme → List Byte → Prop
  | _, [], bs => Blanks bs
  | p, lx :: r, bs => ∃ u rest, bs = u ++ (lx.tok.concrete ++ rest) ∧ Blanks u ∧
      (u = [] → p = true → startsStop lx.tok.concrete = true) ∧ Laid (endsSticky lx.tok.concrete) r rest

theorem Laid.cons {p : Bool} {lx : Lexeme} {r : List Lexeme} {u rest : List Byte} (hu : Blanks u)
    (hg : u = [] → p = true → startsStop lx.tok.concrete = true) (h : Laid (endsSticky lx.tok.concrete) r rest) :
    Laid p (lx :: r) (u ++ (lx.tok.concrete ++ rest)) := ⟨u, rest, rfl, hu, hg, h⟩

/-- what follows a word or a number stops it -/
theorem Laid.stop {l : List Lexeme} {bs : List Byte} (h : Laid true l bs) : stop1 bs = true := by
  cases l with
  | nil => exact List.append_nil bs ▸ blanks_stop1 h (r := []) rfl
  | cons lx r =>
    obtain ⟨u, rest, rfl, hu, hg, _⟩ := h
    cases u with
    | nil => exact startsStop_stop1 (hg rfl rfl) _
    | cons c u => exact stopByte_blank hu.head

/-- The tokenizer delivers every admissible text of a lexeme list of known tokens as exactly its tokens. -/
theorem lex_laid {l : List Lexeme} (htok : ∀ lx ∈ l, TokOk lx.tok) {p : Bool} {bs : List Byte} (h : Laid p l bs) :
    LexI (toks l) bs := by
  induction l generalizing p bs with
  | nil => exact LexI.eof h
  | cons a r ih =>
    obtain ⟨u, rest, rfl, hu, _, hr⟩ := h
    have ih := ih (fun lx h => htok lx (List.mem_cons_of_mem _ h)) hr
    -- the guard is consumed one step late: the guard of the NEXT lexeme tells a word or a number where it stops
    -- (the guard of `a` itself has done that for the token before `a`)
    have hstop : endsSticky a.tok.concrete = true → stop1 rest = true := fun hs => (hs ▸ hr).stop
    have ha := htok a List.mem_cons_self
    show LexI (a.tok :: toks r) _
    -- the token as a variable, so that `cases` has nothing to unify
    generalize a.tok = tk at ha hstop ⊢
    cases ha with
    | word s hs => exact LexI.ident hs (hstop (endsSticky_ident hs)) hu ih
    | single c k hb hk' => exact LexI.single hb hk' hu ih
    | arrow => exact LexI.of_ff_eq (s := [45, 62]) (fun fuel t => ff_arrow fuel t rest) hu ih
    | shl => exact LexI.of_ff_eq (s := [60, 60]) (fun fuel t => ff_shl fuel t rest) hu ih
    | shr => exact LexI.of_ff_eq (s := [62, 62]) (fun fuel t => ff_shr fuel t rest) hu ih
    | negInf => exact LexI.of_ff_eq (s := [45, 105, 110, 102]) (fun fuel t => ff_negInf fuel t rest) hu ih
    | num s hs => exact LexI.of_ff (ff_number hs (hstop (endsSticky_num hs))) hu ih
    | str s hs => exact LexI.of_ff_eq (fun fuel t => ff_string hs fuel t rest) hu ih
    | comment s hs => exact LexI.of_ff_eq (fun fuel t => ff_comment hs fuel t rest) hu ih
    | float neg ip fp hip0 hip hfp0 hfp =>
      have hst := endsSticky_tail ((if neg then [45] else []) ++ ip ++ [46]) hfp0 fun x hx =>
        identCont_numeric (List.all_eq_true.1 hfp x hx)
      exact LexI.of_ff (ff_float neg hip0 hip hfp0 hfp (hstop (by simpa [List.append_assoc] using hst))) hu ih

/-! ### the canonical layout -/

/-- the layout of the rest of the list is the layout shifted by one -/
theorem render_succ (w : Nat → List Byte) (l : List Lexeme) (n : Nat) :
    render w (n + 1) l = render (fun k => w (k + 1)) n l := by
  induction l generalizing n with
  | nil => rfl
  | cons a r ih => exact congrArg (fun x => w (n + 1) ++ (a.tok.concrete ++ x)) (ih (n + 1))

theorem layoutOk_tail {w : Nat → List Byte} {a : Lexeme} {r : List Lexeme} (h : LayoutOk w (a :: r)) :
    LayoutOk (fun k => w (k + 1)) r :=
  ⟨fun k => h.blank (k + 1), fun k => h.keep (k + 1)⟩

theorem render_canon (l : List Lexeme) : render (canonW l) 0 l = renderC l := by
  induction l with
  | nil => rfl
  | cons a r ih => exact congrArg (fun x => a.sep ++ (a.tok.concrete ++ x)) ((render_succ _ r 0).trans ih)

/-! ### a one-pass well-formedness check

`WFL p l`: the lexeme list `l` is well-formed when it follows a token whose last byte is (`p = true`) or is
not (`p = false`) a letter, digit or underscore. -/

def WFL : Bool → List Lexeme → Prop
  | _, [] => True
  | p, c :: r =>
    TokOk c.tok ∧ Blanks c.sep ∧ (c.sep = [] → p = true → startsStop c.tok.concrete = true) ∧
    WFL (endsSticky c.tok.concrete) r

theorem WFL.toks {l : List Lexeme} {p : Bool} (h : WFL p l) : ∀ lx ∈ l, TokOk lx.tok ∧ Blanks lx.sep := by
  induction l generalizing p with
  | nil => exact fun _ hm => nomatch hm
  | cons a r ih =>
    intro lx hm
    rcases List.mem_cons.1 hm with rfl | hm
    · exact ⟨h.1, h.2.1⟩
    · exact ih h.2.2.2 lx hm

/-- the layouts of `LayoutOk` are admissible -/
theorem WFL.laid {w : Nat → List Byte} {l : List Lexeme} {p : Bool} (h : WFL p l) (hw : LayoutOk w l) :
    Laid p l (render w 0 l) := by
  induction l generalizing w p with
  | nil => exact hw.blank 0
  | cons a r ih =>
    exact Laid.cons (hw.blank 0) (fun hu => h.2.2.1 (Decidable.byContradiction fun hs => hw.keep 0 a rfl hs hu))
      (render_succ w r 0 ▸ ih h.2.2.2 (layoutOk_tail hw))

theorem canonW_ok {l : List Lexeme} {p : Bool} (hl : WFL p l) : LayoutOk (canonW l) l := by
  refine ⟨fun k c hc => ?_, fun k lx h hne => ?_⟩
  · unfold canonW at hc
    cases h : l[k]? with
    | none => rw [h] at hc; cases hc
    | some lx => rw [h] at hc; exact (hl.toks lx (List.mem_of_getElem? h)).2 c hc
  · unfold canonW
    rw [h]; exact hne

theorem WFL.mono : ∀ {l : List Lexeme}, WFL true l → ∀ p, WFL p l
  | [], _, _ => trivial
  | _ :: _, h, _ => ⟨h.1, h.2.1, fun hs _ => h.2.2.1 hs rfl, h.2.2.2⟩

theorem tokOk_kw {s : List Byte} {k : TK} (h1 : identBytes s = true) (h2 : kwTable.lookup s = some k) :
    TokOk { kind := k, concrete := s } := by
  have := TokOk.word s h1
  rwa [keywordKind_eq, h2] at this

/-- a word that is no keyword is an identifier -/
theorem tokOk_id {s : List Byte} (h1 : identBytes s = true) (h2 : kwTable.lookup s = none) :
    TokOk { kind := .ident, concrete := s } := by
  have := TokOk.word s h1
  rwa [keywordKind_eq, h2] at this

theorem tokOk_single {c : Byte} {k : TK} (h1 : isBlank c = false) (h2 : sbTable.lookup c.toNat = some (some k)) :
    TokOk { kind := k, concrete := [c] } := TokOk.single c k h1 (by rw [singleByteKind_eq, h2]; rfl)

end Canon
end Bebop.Text
