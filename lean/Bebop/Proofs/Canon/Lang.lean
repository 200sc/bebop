/-
  Canon/Lang: the extended sub-language — abstract syntax, the `File` a schema denotes, which schemas are
  well-formed, and the lexeme list of a schema (tokens with their canonical spacing), written three times over
  the same recursion: as lexemes (`…Lex`), as text (`…Text`) and as a count (`…Len`).

  Canonical text of a schema: `canonTextF f = renderC (fileLex false f)` (`= fileText false f`); laid-out texts:
  `laidOutF w f = render w 0 (fileLex false f)`.
-/
import Bebop.Text.Parser
import Bebop.Proofs.Canon.Gen

namespace Bebop.Text

/-! ### abstract syntax -/

/-- Field types: `Name`, `array[T]`, `map[Key, V]`, each followed by `k` pairs of brackets `[]`. -/
inductive CType where
  | name (n : Str) (k : Nat)
  | array (t : CType) (k : Nat)
  | map (key : Str) (v : CType) (k : Nat)

/-- A struct field: `// doc` lines, an optional `[deprecated("msg")]` line, `Type name;` and an optional
    trailing `// comment` on the same line. -/
structure CField where
  doc : List Str := []
  dep : Option Str
  ty : CType
  name : Str
  trail : Option Str := none

/-- The value of an `[opcode(…)]` attribute: an integer literal or a four-character string. -/
inductive OpLit where
  | num (lit : Str)
  | str (s : Str)

/-- A message field `idx -> Type name;`, optionally preceded by a `[deprecated("msg")]` line. -/
structure CMsgField where
  doc : List Str := []
  dep : Option Str
  idx : Str
  ty : CType
  name : Str
  /-- a trailing `// comment` on the field's line: the parser skips it; the formatter moves it to a line of
      its own, where it becomes a doc comment of the next field (finding F2) — so it is part of the language
      of the parser theorems only -/
  trail : Option Str := none

/-- The tokens of an enum member's value: in an ordinary enum a single literal; in a `[flags]` enum an
    expression over literals, earlier members, `|`, `&`, `<<`, `>>` and parentheses. -/
inductive ETok where
  | lit (s : Str)
  | ref (name : Str)
  | bar | amp | shl | shr | lp | rp

/-- An enum member `Name = value;`, optionally preceded by doc lines and a `[deprecated("msg")]` line. -/
structure CEnumOpt where
  doc : List Str := []
  dep : Option Str
  name : Str
  val : List ETok

/-- The value of a constant: an integer literal for a type `ty`, `true` / `false`, or a plain string. -/
inductive CConstV where
  | int (ty lit : Str)
  | bool (v : Bool)
  | str (body : Str)
  /-- a float literal `[-]ip.fp` for a float type -/
  | float (ty : Str) (neg : Bool) (ip fp : Str)
  /-- `inf`, `-inf`, `nan` for a float type -/
  | inf (ty : Str)
  | negInf (ty : Str)
  | nan (ty : Str)
  /-- a guid in quotes: 32 characters besides the dashes -/
  | guid (body : Str)

/-- A union member `idx -> struct Name { … }` / `idx -> message Name { … }`, optionally preceded by a
    `[deprecated("msg")]` line. -/
inductive CUMember where
  | struct (doc : List Str) (dep : Option Str) (idx : Str) (name : Str) (fields : List CField)
  | message (doc : List Str) (dep : Option Str) (idx : Str) (name : Str) (fields : List CMsgField)

inductive CDef where
  | struct (op : Option OpLit) (ro : Bool) (name : Str) (fields : List CField)
  | message (op : Option OpLit) (name : Str) (fields : List CMsgField)
  | enum (flags : Bool) (name : Str) (base : Option Str) (opts : List CEnumOpt)
  | union (op : Option OpLit) (name : Str) (members : List CUMember)
  | const (name : Str) (v : CConstV)
  | import_ (path : Str)

/-- A top-level definition with the `// doc` lines in front of it. -/
structure CTop where
  doc : List Str := []
  d : CDef

abbrev CFile := List CTop

/-! ### denotation -/

/-- `k` array suffixes, as the parser's suffix loop applies them -/
def wrapArr : Nat → FT → FT
  | 0, ft => ft
  | k + 1, ft => wrapArr k (FT.arr ft)

def ftOf : CType → FT
  | .name n k => wrapArr k (.simple n)
  | .array t k => wrapArr k (.arr (ftOf t))
  | .map key v k => wrapArr k (.map key (ftOf v))

def depMsgOf : Option Str → Str
  | none => []
  | some m => m

/-- the comment a run of `// doc` lines denotes: the lines (without the slashes), joined by line breaks -/
def docOf (doc : List Str) : Str := joinLines doc

/-- the tags a run of `// doc` lines inside a body carries: the lines of the form `[tag(key)]` /
    `[tag(key:"value")]` (`commentTag`, the parser's own reading), in order -/
def tagsOf (doc : List Str) : List Tag := doc.filterMap (fun c => (commentTag c).getD none)

def fieldOfC (f : CField) : Field :=
  { ft := ftOf f.ty, name := f.name, comment := docOf f.doc, tags := tagsOf f.doc, depMsg := depMsgOf f.dep,
    deprecated := f.dep.isSome }

/-- the number an opcode attribute denotes (`readOpCode`): `strconv.ParseUint(lit, 0, 32)`, or the four
    bytes of the string read as a little-endian number -/
def opVal : Option OpLit → Nat
  | none => 0
  | some (.num lit) => (parseUint lit true 32).getD 0
  | some (.str s) => ofLe s

/-- the index of a message field or a union member: `strconv.ParseUint(lit, 10, 8)` -/
def idxVal (lit : Str) : Nat := (parseUint lit false 8).getD 0

def msgFieldOf (g : CMsgField) : Nat × Field :=
  (idxVal g.idx,
   { ft := ftOf g.ty, name := g.name, comment := docOf g.doc, tags := tagsOf g.doc, depMsg := depMsgOf g.dep,
     deprecated := g.dep.isSome })


/-- the base type of an enum (`uint32` when none is written) -/
def enumBase : Option Str → Str
  | none => kwUint32
  | some b => b

/-- width and signedness of an enum's base type (`decodeIntegerType`) -/
def enumBits (base : Option Str) : Nat × Bool := (decodeInteger (enumBase base)).getD (32, true)

def ETok.tok : ETok → Token
  | .lit s => { kind := .intLit, concrete := s }
  | .ref n => { kind := .ident, concrete := n }
  | .bar => { kind := .vbar, concrete := [124] }
  | .amp => { kind := .amp, concrete := [38] }
  | .shl => { kind := .dblLeft, concrete := [60, 60] }
  | .shr => { kind := .dblRight, concrete := [62, 62] }
  | .lp => { kind := .openParen, concrete := [40] }
  | .rp => { kind := .closeParen, concrete := [41] }

/-- the value of an enum member (`readEnumOptionValue`): in an ordinary enum the literal read with
    `strconv.ParseUint` / `ParseInt` (base 0) in the width of the base type; in a `[flags]` enum the model's
    own `parseExpr` / `evalExpr` on the member's tokens, `prev` being the members before it. Unsigned enums
    store the value in `uvalue` (second component), signed ones in `value` (first component). -/
def enumVal (fl : Bool) (bits : Nat) (unsigned : Bool) (prev : List EnumOption) (val : List Token) : Option (Int × Nat) :=
  if fl then
    match parseExpr (val.length + 1) val with
    | none => none
    | some e =>
      match evalExpr bits unsigned prev e with
      | none => none
      | some v => some (if unsigned then (0, v.toNat) else (v, 0))
  else
    match val with
    | [tk] =>
      if tk.kind == .intLit then
        (if unsigned then (parseUint tk.concrete true bits).map (fun n => ((0 : Int), n))
         else (parseInt tk.concrete true bits).map (fun n => (n, (0 : Nat))))
      else none
    | _ => none

def enumOptOf (fl : Bool) (bits : Nat) (unsigned : Bool) (prev : List EnumOption) (o : CEnumOpt) : EnumOption :=
  { name := o.name, comment := docOf o.doc, depMsg := depMsgOf o.dep,
    value := ((enumVal fl bits unsigned prev (o.val.map ETok.tok)).getD (0, 0)).1,
    uvalue := ((enumVal fl bits unsigned prev (o.val.map ETok.tok)).getD (0, 0)).2,
    deprecated := o.dep.isSome }

/-- the members of an enum, each evaluated with the members before it in scope -/
def enumOptsOf (fl : Bool) (bits : Nat) (unsigned : Bool) : List EnumOption → List CEnumOpt → List EnumOption
  | acc, [] => acc
  | acc, o :: os => enumOptsOf fl bits unsigned (acc ++ [enumOptOf fl bits unsigned acc o]) os


def floatText (neg : Bool) (ip fp : Str) : Str := (if neg then [45] else []) ++ (ip ++ 46 :: fp)

def constTy : CConstV → Str
  | .int ty _ => ty
  | .bool _ => kwBool
  | .str _ => kwString
  | .float ty .. => ty
  | .inf ty => ty
  | .negInf ty => ty
  | .nan ty => ty
  | .guid _ => kwGuid

/-- the text of a constant's value, as the `File` stores it (string literals with their quotes) -/
def constVal : CConstV → Str
  | .int _ lit => lit
  | .bool v => if v then kwTrue else kwFalse
  | .str body => 34 :: (body ++ [34])
  | .float _ neg ip fp => floatText neg ip fp
  | .inf _ => strOf "math.Inf(1)"
  | .negInf _ => strOf "math.Inf(-1)"
  | .nan _ => strOf "math.NaN()"
  | .guid body => 34 :: (body ++ [34])

def CUMember.doc : CUMember → List Str
  | .struct c .. => c
  | .message c .. => c

def CUMember.dep : CUMember → Option Str
  | .struct _ d .. => d
  | .message _ d .. => d

def CUMember.idx : CUMember → Str
  | .struct _ _ i .. => i
  | .message _ _ i .. => i

def memberOf (m : CUMember) : Nat × UnionField :=
  (idxVal m.idx,
   { body := (match m with
        | .struct doc _ _ name fields =>
          UBody.st { name := name, comment := docOf doc, fields := fields.map fieldOfC, opCode := 0, readOnly := false }
        | .message doc _ _ name fields =>
          UBody.msg { name := name, comment := docOf doc, fields := fields.map msgFieldOf, opCode := 0 }),
     tags := tagsOf m.doc, depMsg := depMsgOf m.dep, deprecated := m.dep.isSome })

def addDefC (F : File) (cs : List Str) : CDef → File
  | .struct op ro name fields =>
    { F with structs := F.structs ++
        [{ name := name, comment := joinLines cs, fields := fields.map fieldOfC, opCode := opVal op, readOnly := ro }] }
  | .message op name fields =>
    { F with messages := F.messages ++
        [{ name := name, comment := joinLines cs, fields := fields.map msgFieldOf, opCode := opVal op }] }
  | .union op name members =>
    { F with unions := F.unions ++
        [{ name := name, comment := joinLines cs, fields := members.map memberOf, opCode := opVal op }] }
  | .enum fl name base opts =>
    { F with enums := F.enums ++
        [{ name := name, comment := joinLines cs,
           options := enumOptsOf fl (enumBits base).1 (enumBits base).2 [] opts,
           simpleType := enumBase base, unsigned := (enumBits base).2 }] }
  | .const name v =>
    { F with consts := F.consts ++
        [{ simpleType := constTy v, comment := joinLines cs, name := name, value := constVal v }],
             goPackage := if strEq name "go_package" && strEq (constTy v) "string"
                          then (plainQuoted (constVal v)).getD [] else F.goPackage }
  | .import_ path => { F with imports := F.imports ++ [path] }

def addDef (F : File) (d : CTop) : File := addDefC F d.doc d.d

/-- The `File` a schema denotes: definitions grouped by kind, each group in source order. -/
def denote (f : CFile) : File := f.foldl addDef {}

/-! ### well-formedness -/

def CTypeOk : CType → Prop
  | .name n _ => IdentOk n = true
  | .array t _ => CTypeOk t
  | .map key v _ => IdentOk key = true ∧ isPrimitiveName key = true ∧ CTypeOk v

/-- A `// doc` line at top level or in an enum: any text without line break and CR. -/
def docLineOk (c : Str) : Bool := c.all (fun x => !(x == 13 || x == 10))

/-- A `// doc` line inside a struct, message or union body: moreover the parser's tag reader
    (`commentTag`) is defined on it — it is an ordinary comment, or a tag `[tag(key)]` / `[tag(key:"value")]`
    whose value is a plain string. -/
def bodyDocOk (c : Str) : Prop := docLineOk c = true ∧ (commentTag c).isSome = true

def CFieldOk (f : CField) : Prop :=
  (∀ c ∈ f.doc, bodyDocOk c) ∧ (∀ c, f.trail = some c → docLineOk c = true) ∧
  (∀ m, f.dep = some m → strBodyOk m = true) ∧ CTypeOk f.ty ∧ IdentOk f.name = true

def OpLitOk : OpLit → Prop
  | .num lit => numLitOk lit = true ∧ (parseUint lit true 32).isSome = true
  | .str s => strBodyOk s = true ∧ s.length = 4

/-- the index denotes a number in 1 … 255; it is decimal because `parseUint … false` (base 10) reads it, although
    `numLitOk` alone would also admit `0x…` and `-…` -/
def CMsgFieldOk (g : CMsgField) : Prop :=
  (∀ c, g.trail = some c → docLineOk c = true) ∧
  (∀ c ∈ g.doc, bodyDocOk c) ∧ (∀ m, g.dep = some m → strBodyOk m = true) ∧ numLitOk g.idx = true ∧
  (∃ n, parseUint g.idx false 8 = some n ∧ n ≠ 0) ∧ CTypeOk g.ty ∧ IdentOk g.name = true

def ETokOk : ETok → Prop
  | .lit s => numLitOk s = true
  | .ref n => IdentOk n = true
  | _ => True

/-- an enum member whose value the parser can evaluate (the literal fits the base type; the expression of a
    `[flags]` member parses and evaluates, given the members `prev` before it) -/
def CEnumOptOk (fl : Bool) (bits : Nat) (unsigned : Bool) (prev : List EnumOption) (o : CEnumOpt) : Prop :=
  (∀ c ∈ o.doc, docLineOk c = true) ∧ (∀ m, o.dep = some m → strBodyOk m = true) ∧ IdentOk o.name = true ∧
  (∀ e ∈ o.val, ETokOk e) ∧ (enumVal fl bits unsigned prev (o.val.map ETok.tok)).isSome = true

def CEnumOptsOk (fl : Bool) (bits : Nat) (unsigned : Bool) : List EnumOption → List CEnumOpt → Prop
  | _, [] => True
  | acc, o :: os =>
    CEnumOptOk fl bits unsigned acc o ∧ CEnumOptsOk fl bits unsigned (acc ++ [enumOptOf fl bits unsigned acc o]) os

def CConstVOk : CConstV → Prop
  | .int ty lit => IdentOk ty = true ∧ numLitOk lit = true ∧ (isUintName ty || isIntName ty || isFloatName ty) = true
  | .bool _ => True
  | .str body => strBodyOk body = true
  | .float ty _ ip fp =>
    IdentOk ty = true ∧ (isUintName ty || isIntName ty) = false ∧ isFloatName ty = true ∧
    ip ≠ [] ∧ ip.all isNumeric = true ∧ fp ≠ [] ∧ fp.all isNumeric = true
  | .inf ty => IdentOk ty = true ∧ (isUintName ty || isIntName ty) = false ∧ isFloatName ty = true
  | .negInf ty => IdentOk ty = true ∧ (isUintName ty || isIntName ty) = false ∧ isFloatName ty = true
  | .nan ty => IdentOk ty = true ∧ (isUintName ty || isIntName ty) = false ∧ isFloatName ty = true
  | .guid body => strBodyOk body = true ∧ (body.filter (· != 0x2d)).length = 32

/-- a union member: the index is a decimal literal denoting a number in 0 … 255; the body is a struct or a
    message body -/
def CUMemberOk : CUMember → Prop
  | .struct doc dep idx name fields =>
    (∀ c ∈ doc, bodyDocOk c) ∧ (∀ m, dep = some m → strBodyOk m = true) ∧ numLitOk idx = true ∧
    (parseUint idx false 8).isSome = true ∧ IdentOk name = true ∧ ∀ f ∈ fields, CFieldOk f
  | .message doc dep idx name fields =>
    (∀ c ∈ doc, bodyDocOk c) ∧ (∀ m, dep = some m → strBodyOk m = true) ∧ numLitOk idx = true ∧
    (parseUint idx false 8).isSome = true ∧ IdentOk name = true ∧ (∀ g ∈ fields, CMsgFieldOk g) ∧
    (fields.map (fun g => idxVal g.idx)).Nodup

def CDefOk : CDef → Prop
  | .struct op _ name fields =>
    (∀ o, op = some o → OpLitOk o) ∧ IdentOk name = true ∧ ∀ f ∈ fields, CFieldOk f
  | .message op name fields =>
    (∀ o, op = some o → OpLitOk o) ∧ IdentOk name = true ∧ (∀ g ∈ fields, CMsgFieldOk g) ∧
    (fields.map (fun g => idxVal g.idx)).Nodup
  | .union op name members =>
    (∀ o, op = some o → OpLitOk o) ∧ IdentOk name = true ∧ (∀ m ∈ members, CUMemberOk m) ∧
    (members.map (fun m => idxVal m.idx)).Nodup
  | .enum fl name base opts =>
    IdentOk name = true ∧
    (∀ b, base = some b → IdentOk b = true ∧ (isUintName b || isIntName b) = true ∧ (decodeInteger b).isSome = true) ∧
    CEnumOptsOk fl (enumBits base).1 (enumBits base).2 [] opts
  | .const name v => IdentOk name = true ∧ CConstVOk v
  | .import_ path => strBodyOk path = true

def CDef.isConst : CDef → Bool
  | .const .. => true
  | _ => false

def CDef.isImport : CDef → Bool
  | .import_ _ => true
  | _ => false

/-- doc lines are plain; an import has none -/
def CTopOk (d : CTop) : Prop :=
  (∀ c ∈ d.doc, docLineOk c = true) ∧ (d.d.isImport = true → d.doc = []) ∧ CDefOk d.d

/-- no doc lines directly after a constant (the formatter would glue them to the constant's line, where the
    parser reads them as an end-of-line comment — a C16 finding) -/
def noDocAfterConst : CFile → Prop
  | a :: b :: r => (a.d.isConst = true → b.doc = []) ∧ noDocAfterConst (b :: r)
  | _ => True

/-- Well-formed schemas for the parser theorems. -/
def CFileOkP (f : CFile) : Prop := (∀ d ∈ f, CTopOk d) ∧ noDocAfterConst f

/-- no trailing comment after a message field (the formatter would move it: finding F2) -/
def CDef.noMovedComments : CDef → Prop
  | .message _ _ fields => ∀ g ∈ fields, g.trail = none
  | .union _ _ members => ∀ m ∈ members,
      (match m with
       | .message _ _ _ _ fields => ∀ g ∈ fields, g.trail = none
       | _ => True)
  | _ => True

/-- what `CDef.noMovedComments` asks of every member of a union: no trailing comment after a message field of the
    member -/
def CUMember.noMoved : CUMember → Prop
  | .message _ _ _ _ fields => ∀ g ∈ fields, g.trail = none
  | _ => True

/-- Well-formed schemas for the formatter theorems (and the parser theorems): moreover no comment that the
    formatter would move. -/
def CFileOk (f : CFile) : Prop := CFileOkP f ∧ ∀ d ∈ f, d.d.noMovedComments

/-! ### tokens -/


abbrev tNl : Token := { kind := .newline, concrete := [10] }
abbrev tOpen : Token := { kind := .openCurly, concrete := [123] }
abbrev tClose : Token := { kind := .closeCurly, concrete := [125] }
abbrev tSemi : Token := { kind := .semicolon, concrete := [59] }
abbrev tLB : Token := { kind := .openSquare, concrete := [91] }
abbrev tRB : Token := { kind := .closeSquare, concrete := [93] }
abbrev tLP : Token := { kind := .openParen, concrete := [40] }
abbrev tRP : Token := { kind := .closeParen, concrete := [41] }
abbrev tComma : Token := { kind := .comma, concrete := [44] }
abbrev tEq : Token := { kind := .equals, concrete := [61] }
abbrev tColon : Token := { kind := .colon, concrete := [58] }
abbrev tArrow : Token := { kind := .arrow, concrete := [45, 62] }
abbrev tId (s : Str) : Token := { kind := .ident, concrete := s }
abbrev tStr (s : Str) : Token := { kind := .strLit, concrete := 34 :: (s ++ [34]) }
abbrev tNum (s : Str) : Token := { kind := .intLit, concrete := s }

/-! ### lexemes (continuation style: `… r` is followed by the lexemes `r`) -/

/-- `k` times `[]` -/
def sufLex : Nat → List Lexeme → List Lexeme
  | 0, r => r
  | k + 1, r => ⟨[], tLB⟩ :: ⟨[], tRB⟩ :: sufLex k r

/-- a type, written after the blanks `s` -/
def typeLex : CType → List Byte → List Lexeme → List Lexeme
  | .name n k, s, r => ⟨s, tId n⟩ :: sufLex k r
  | .array t k, s, r => ⟨s, ⟨.kArray, kwArray⟩⟩ :: ⟨[], tLB⟩ :: typeLex t [] (⟨[], tRB⟩ :: sufLex k r)
  | .map key v k, s, r =>
    ⟨s, ⟨.kMap, kwMap⟩⟩ :: ⟨[], tLB⟩ :: ⟨[], tId key⟩ :: ⟨[], tComma⟩ :: typeLex v [32] (⟨[], tRB⟩ :: sufLex k r)

/-- `[deprecated("msg")]` on a line of its own, indented by `ind` -/
def depLex (ind : List Byte) : Option Str → List Lexeme → List Lexeme
  | none, r => r
  | some m, r =>
    ⟨ind, tLB⟩ :: ⟨[], ⟨.kDeprecated, kwDeprecated⟩⟩ :: ⟨[], tLP⟩ :: ⟨[], tStr m⟩ :: ⟨[], tRP⟩ :: ⟨[], tRB⟩ ::
    ⟨[], tNl⟩ :: r

abbrev tCmt (c : Str) : Token := { kind := .lineComment, concrete := 47 :: 47 :: (c ++ [10]) }

/-- `// doc` lines, each on a line of its own (the token includes the line break), indented by `ind` -/
def docLex (ind : List Byte) : List Str → List Lexeme → List Lexeme
  | [], r => r
  | c :: cs, r => ⟨ind, tCmt c⟩ :: docLex ind cs r

/-- the end of a field line: the line break, or ` // comment` (which includes the line break) -/
def trailLex : Option Str → List Lexeme → List Lexeme
  | none, r => ⟨[], tNl⟩ :: r
  | some c, r => ⟨[32], tCmt c⟩ :: r

def fieldLex (ind : List Byte) (f : CField) (r : List Lexeme) : List Lexeme :=
  docLex ind f.doc (depLex ind f.dep (typeLex f.ty ind (⟨[32], tId f.name⟩ :: ⟨[], tSemi⟩ :: trailLex f.trail r)))

/-- the field lines and the closing line of a struct body -/
def fieldsLex (ind : List Byte) : List CField → List Lexeme → List Lexeme
  | [], r => ⟨ind.dropLast, tClose⟩ :: ⟨[], tNl⟩ :: r
  | f :: fs, r => fieldLex ind f (fieldsLex ind fs r)

def opLitTok : OpLit → Token
  | .num lit => tNum lit
  | .str s => tStr s

/-- `[opcode(…)]` on a line of its own -/
def opLex : Option OpLit → List Lexeme → List Lexeme
  | none, r => r
  | some o, r =>
    ⟨[], tLB⟩ :: ⟨[], ⟨.kOpCode, kwOpcode⟩⟩ :: ⟨[], tLP⟩ :: ⟨[], opLitTok o⟩ :: ⟨[], tRP⟩ :: ⟨[], tRB⟩ ::
    ⟨[], tNl⟩ :: r

/-- `struct Name {` … `}` with the body indented by `ind`; `s`: the blanks before `struct` -/
def structLex (s ind : List Byte) (name : Str) (fields : List CField) (r : List Lexeme) : List Lexeme :=
  ⟨s, ⟨.kStruct, kwStruct⟩⟩ :: ⟨[32], tId name⟩ :: ⟨[32], tOpen⟩ :: ⟨[], tNl⟩ :: fieldsLex ind fields r

def msgFieldLex (ind : List Byte) (g : CMsgField) (r : List Lexeme) : List Lexeme :=
  docLex ind g.doc (depLex ind g.dep (⟨ind, tNum g.idx⟩ :: ⟨[32], tArrow⟩ ::
    typeLex g.ty [32] (⟨[32], tId g.name⟩ :: ⟨[], tSemi⟩ :: trailLex g.trail r)))

/-- the field lines and the closing line of a message body -/
def msgFieldsLex (ind : List Byte) : List CMsgField → List Lexeme → List Lexeme
  | [], r => ⟨ind.dropLast, tClose⟩ :: ⟨[], tNl⟩ :: r
  | g :: gs, r => msgFieldLex ind g (msgFieldsLex ind gs r)

def messageLex (s ind : List Byte) (name : Str) (fields : List CMsgField) (r : List Lexeme) : List Lexeme :=
  ⟨s, ⟨.kMessage, kwMessage⟩⟩ :: ⟨[32], tId name⟩ :: ⟨[32], tOpen⟩ :: ⟨[], tNl⟩ :: msgFieldsLex ind fields r

/-- the tokens of a member's `= value`, spaced as the formatter spaces them: one blank before every token
    except directly after `(` and directly before `)` (`prev`: the kind of the token before) -/
def spLex (prev : TK) : List Token → List Lexeme → List Lexeme
  | [], r => r
  | tk :: ts, r => ⟨if prev != .openParen && tk.kind != .closeParen then [32] else [], tk⟩ :: spLex tk.kind ts r

def enumOptLex (o : CEnumOpt) (r : List Lexeme) : List Lexeme :=
  docLex [9] o.doc (depLex [9] o.dep
    (⟨[9], tId o.name⟩ :: spLex .ident (tEq :: o.val.map ETok.tok) (⟨[], tSemi⟩ :: ⟨[], tNl⟩ :: r)))

def enumOptsLex : List CEnumOpt → List Lexeme → List Lexeme
  | [], r => ⟨[], tClose⟩ :: ⟨[], tNl⟩ :: r
  | o :: os, r => enumOptLex o (enumOptsLex os r)

/-- ` : base`, if a base type is written -/
def baseLex : Option Str → List Lexeme → List Lexeme
  | none, r => r
  | some b, r => ⟨[32], tColon⟩ :: ⟨[32], tId b⟩ :: r

def memberLex : CUMember → List Lexeme → List Lexeme
  | .struct doc dep idx name fields, r =>
    docLex [9] doc (depLex [9] dep (⟨[9], tNum idx⟩ :: ⟨[32], tArrow⟩ :: structLex [32] [9, 9] name fields r))
  | .message doc dep idx name fields, r =>
    docLex [9] doc (depLex [9] dep (⟨[9], tNum idx⟩ :: ⟨[32], tArrow⟩ :: messageLex [32] [9, 9] name fields r))

/-- the members and the closing line of a union -/
def membersLex : List CUMember → List Lexeme → List Lexeme
  | [], r => ⟨[], tClose⟩ :: ⟨[], tNl⟩ :: r
  | m :: ms, r => memberLex m (membersLex ms r)

/-- `[flags]` on a line of its own -/
def flagsLex : Bool → List Lexeme → List Lexeme
  | false, r => r
  | true, r => ⟨[], tLB⟩ :: ⟨[], ⟨.kFlags, kwFlags⟩⟩ :: ⟨[], tRB⟩ :: ⟨[], tNl⟩ :: r

def constValTok : CConstV → Token
  | .int _ lit => tNum lit
  | .bool v => if v then ⟨.kTrue, kwTrue⟩ else ⟨.kFalse, kwFalse⟩
  | .str body => tStr body
  | .float _ neg ip fp => { kind := .floatLit, concrete := floatText neg ip fp }
  | .inf _ => { kind := .kInf, concrete := kwInf }
  | .negInf _ => { kind := .negInf, concrete := [45, 105, 110, 102] }
  | .nan _ => { kind := .kNaN, concrete := kwNan }
  | .guid body => tStr body

def defLex : CDef → List Lexeme → List Lexeme
  | .struct op ro name fields, r =>
    opLex op (if ro then ⟨[], ⟨.kReadOnly, kwReadonly⟩⟩ :: structLex [32] [9] name fields r
              else structLex [] [9] name fields r)
  | .message op name fields, r => opLex op (messageLex [] [9] name fields r)
  | .enum fl name base opts, r =>
    flagsLex fl (⟨[], ⟨.kEnum, kwEnum⟩⟩ :: ⟨[32], tId name⟩ ::
      baseLex base (⟨[32], tOpen⟩ :: ⟨[], tNl⟩ :: enumOptsLex opts r))
  | .union op name members, r =>
    opLex op (⟨[], ⟨.kUnion, kwUnion⟩⟩ :: ⟨[32], tId name⟩ :: ⟨[32], tOpen⟩ :: ⟨[], tNl⟩ :: membersLex members r)
  | .const name v, r =>
    ⟨[], ⟨.kConst, kwConst⟩⟩ :: ⟨[32], tId (constTy v)⟩ :: ⟨[32], tId name⟩ :: ⟨[32], tEq⟩ ::
    ⟨[32], constValTok v⟩ :: ⟨[], tSemi⟩ :: r
  | .import_ path, r => ⟨[], ⟨.kImport, kwImport⟩⟩ :: ⟨[32], tStr path⟩ :: ⟨[], tNl⟩ :: r

/-- does the formatter put a line break (an empty line after `}`) before the definition that follows? -/
def nlAfter : CDef → Bool
  | .import_ _ => false
  | _ => true

/-- the lexemes of a file; `nl`: an empty line separates the first definition from what came before -/
def fileLex : Bool → CFile → List Lexeme
  | _, [] => []
  | nl, d :: ds =>
    (if nl && d.doc.isEmpty then [⟨[], tNl⟩] else []) ++ docLex [] d.doc (defLex d.d (fileLex (nlAfter d.d) ds))

/-- The canonical text of a schema. -/
def canonTextF (f : CFile) : Str := renderC (fileLex false f)

/-- The schema written with the layout `w`: `w k` is the run of blanks in front of the k-th token (and
    after the last one). -/
def laidOutF (w : Nat → List Byte) (f : CFile) : Str := render w 0 (fileLex false f)


/-! ### the canonical text, construct by construct (`canonTextF_eq_fileText`) -/

def sufText : Nat → Str
  | 0 => []
  | k + 1 => [91, 93] ++ sufText k

/-- `Name[]…`, `array[T][]…`, `map[Key, V][]…` -/
def typeText : CType → Str
  | .name n k => n ++ sufText k
  | .array t k => kwArray ++ [91] ++ typeText t ++ [93] ++ sufText k
  | .map key v k => kwMap ++ [91] ++ key ++ [44, 32] ++ typeText v ++ [93] ++ sufText k

/-- `[deprecated("msg")]` + line break, indented -/
def depText (ind : Str) : Option Str → Str
  | none => []
  | some m => ind ++ [91] ++ kwDeprecated ++ [40] ++ (34 :: (m ++ [34])) ++ [41, 93, 10]

/-- `// doc` lines, indented -/
def cmtText (ind : Str) : List Str → Str
  | [] => []
  | c :: cs => ind ++ [47, 47] ++ c ++ [10] ++ cmtText ind cs

/-- line break, or ` // comment` and line break -/
def trailText : Option Str → Str
  | none => [10]
  | some c => [32, 47, 47] ++ c ++ [10]

/-- the field lines and the closing line of a struct body -/
def fieldsText (ind : Str) : List CField → Str
  | [] => ind.dropLast ++ [125, 10]
  | g :: fs =>
    cmtText ind g.doc ++ depText ind g.dep ++ ind ++ typeText g.ty ++ [32] ++ g.name ++ [59] ++ trailText g.trail ++
      fieldsText ind fs

/-- `[opcode(…)]` + line break -/
def opText : Option OpLit → Str
  | none => []
  | some o => [91] ++ kwOpcode ++ [40] ++ (opLitTok o).concrete ++ [41, 93, 10]

/-- the field lines `idx -> Type name;` and the closing line of a message body -/
def msgFieldsText (ind : Str) : List CMsgField → Str
  | [] => ind.dropLast ++ [125, 10]
  | g :: gs =>
    cmtText ind g.doc ++ depText ind g.dep ++ ind ++ g.idx ++ [32, 45, 62, 32] ++ typeText g.ty ++ [32] ++ g.name ++ [59] ++
      trailText g.trail ++ msgFieldsText ind gs

def spText (prev : TK) : List Token → Str
  | [] => []
  | tk :: ts => (if prev != .openParen && tk.kind != .closeParen then [32] else []) ++ tk.concrete ++ spText tk.kind ts

/-- the member lines `Name = value;` and the closing line of an enum -/
def enumOptsText : List CEnumOpt → Str
  | [] => [125, 10]
  | o :: os =>
    cmtText [9] o.doc ++ depText [9] o.dep ++ [9] ++ o.name ++ spText .ident (tEq :: o.val.map ETok.tok) ++ [59, 10] ++
      enumOptsText os

def memberText : CUMember → Str
  | .struct doc dep idx name fields =>
    cmtText [9] doc ++ depText [9] dep ++ [9] ++ idx ++ [32, 45, 62, 32] ++ kwStruct ++ [32] ++ name ++ [32, 123, 10] ++
      fieldsText [9, 9] fields
  | .message doc dep idx name fields =>
    cmtText [9] doc ++ depText [9] dep ++ [9] ++ idx ++ [32, 45, 62, 32] ++ kwMessage ++ [32] ++ name ++ [32, 123, 10] ++
      msgFieldsText [9, 9] fields

def membersText : List CUMember → Str
  | [] => [125, 10]
  | m :: ms => memberText m ++ membersText ms

def flagsText : Bool → Str
  | false => []
  | true => [91] ++ kwFlags ++ [93, 10]

def baseText : Option Str → Str
  | none => []
  | some b => [32, 58, 32] ++ b

def defText : CDef → Str
  | .struct op ro name fields =>
    opText op ++ (if ro then kwReadonly ++ [32] else []) ++ kwStruct ++ [32] ++ name ++ [32, 123, 10] ++
      fieldsText [9] fields
  | .message op name fields =>
    opText op ++ kwMessage ++ [32] ++ name ++ [32, 123, 10] ++ msgFieldsText [9] fields
  | .enum fl name base opts =>
    flagsText fl ++ kwEnum ++ [32] ++ name ++ baseText base ++ [32, 123, 10] ++ enumOptsText opts
  | .union op name members => opText op ++ kwUnion ++ [32] ++ name ++ [32, 123, 10] ++ membersText members
  | .const name v =>
    kwConst ++ [32] ++ constTy v ++ [32] ++ name ++ [32, 61, 32] ++ (constValTok v).concrete ++ [59]
  | .import_ path => kwImport ++ [32] ++ (34 :: (path ++ [34])) ++ [10]

/-- the text of a file: an empty line before a definition where the formatter puts one -/
def fileText : Bool → CFile → Str
  | _, [] => []
  | nl, d :: ds =>
    (if nl && d.doc.isEmpty then [10] else []) ++ cmtText [] d.doc ++ defText d.d ++ fileText (nlAfter d.d) ds

/-! ### sizes (numbers of lexemes) -/

def tyLen : CType → Nat
  | .name _ k => 1 + 2 * k
  | .array t k => 3 + tyLen t + 2 * k
  | .map _ v k => 5 + tyLen v + 2 * k

def depLen : Option Str → Nat
  | none => 0
  | some _ => 7

def fieldLen (f : CField) : Nat := f.doc.length + depLen f.dep + tyLen f.ty + 3

def fieldsLen : List CField → Nat
  | [] => 2
  | f :: fs => fieldLen f + fieldsLen fs

def opLen : Option OpLit → Nat
  | none => 0
  | some _ => 7

def msgFieldLen (g : CMsgField) : Nat := g.doc.length + depLen g.dep + tyLen g.ty + 5

def msgFieldsLen : List CMsgField → Nat
  | [] => 2
  | g :: gs => msgFieldLen g + msgFieldsLen gs

def enumOptLen (o : CEnumOpt) : Nat := o.doc.length + depLen o.dep + 4 + o.val.length

def enumOptsLen : List CEnumOpt → Nat
  | [] => 2
  | o :: os => enumOptLen o + enumOptsLen os

def memberLen : CUMember → Nat
  | .struct doc dep _ _ fields => doc.length + depLen dep + 6 + fieldsLen fields
  | .message doc dep _ _ fields => doc.length + depLen dep + 6 + msgFieldsLen fields

def membersLen : List CUMember → Nat
  | [] => 2
  | m :: ms => memberLen m + membersLen ms

def flagsLen : Bool → Nat
  | false => 0
  | true => 4

def baseLen : Option Str → Nat
  | none => 0
  | some _ => 2

def defLen : CDef → Nat
  | .struct op ro _ fields => opLen op + (if ro then 1 else 0) + 4 + fieldsLen fields
  | .message op _ fields => opLen op + 4 + msgFieldsLen fields
  | .enum fl _ base opts => flagsLen fl + 4 + baseLen base + enumOptsLen opts
  | .union op _ members => opLen op + 4 + membersLen members
  | .const _ _ => 6
  | .import_ _ => 3

def topLen (d : CTop) : Nat := d.doc.length + defLen d.d

namespace Canon

theorem renderC_docLex (ind : List Byte) (cs : List Str) (r : List Lexeme) :
    renderC (docLex ind cs r) = cmtText ind cs ++ renderC r := by
  induction cs with
  | nil => rfl
  | cons c cs ih => simp only [chain, List.cons_append, docLex, cmtText, ih]

theorem renderC_trailLex (c : Option Str) (r : List Lexeme) : renderC (trailLex c r) = trailText c ++ renderC r := by
  cases c <;> simp only [chain, List.cons_append, trailLex, trailText]

theorem renderC_sufLex (k : Nat) (r : List Lexeme) : renderC (sufLex k r) = sufText k ++ renderC r := by
  induction k with
  | zero => rfl
  | succ k ih => simp only [chain, List.cons_append, sufLex, sufText, ih]

theorem renderC_typeLex (ty : CType) (s : List Byte) (r : List Lexeme) :
    renderC (typeLex ty s r) = s ++ typeText ty ++ renderC r := by
  induction ty generalizing s r with
  | name n k => simp only [chain, typeLex, typeText, renderC_sufLex]
  | array t k ih => simp only [chain, List.cons_append, typeLex, typeText, renderC_sufLex, ih]
  | map key v k ih => simp only [chain, List.cons_append, typeLex, typeText, renderC_sufLex, ih]

theorem renderC_depLex (ind : List Byte) (d : Option Str) (r : List Lexeme) :
    renderC (depLex ind d r) = depText ind d ++ renderC r := by
  cases d <;> simp only [chain, List.cons_append, depLex, depText]

theorem renderC_fieldsLex (ind : List Byte) (fs : List CField) (r : List Lexeme) :
    renderC (fieldsLex ind fs r) = fieldsText ind fs ++ renderC r := by
  induction fs with
  | nil => simp only [chain, List.cons_append, fieldsLex, fieldsText]
  | cons g fs ih =>
    simp only [chain, List.cons_append, fieldsLex, fieldLex, fieldsText, renderC_docLex, renderC_trailLex, renderC_depLex,
      renderC_typeLex, ih]

theorem renderC_opLex (o : Option OpLit) (r : List Lexeme) : renderC (opLex o r) = opText o ++ renderC r := by
  cases o <;> simp only [chain, List.cons_append, opLex, opText]

theorem renderC_msgFieldsLex (ind : List Byte) (gs : List CMsgField) (r : List Lexeme) :
    renderC (msgFieldsLex ind gs r) = msgFieldsText ind gs ++ renderC r := by
  induction gs with
  | nil => simp only [chain, List.cons_append, msgFieldsLex, msgFieldsText]
  | cons g gs ih =>
    simp only [chain, List.cons_append, msgFieldsLex, msgFieldLex, msgFieldsText, renderC_docLex, renderC_trailLex,
      renderC_depLex, renderC_typeLex, ih]

theorem renderC_spLex (ts : List Token) (prev : TK) (r : List Lexeme) :
    renderC (spLex prev ts r) = spText prev ts ++ renderC r := by
  induction ts generalizing prev with
  | nil => rfl
  | cons tk ts ih => simp only [chain, spLex, spText, ih]

theorem renderC_enumOptsLex (os : List CEnumOpt) (r : List Lexeme) :
    renderC (enumOptsLex os r) = enumOptsText os ++ renderC r := by
  induction os with
  | nil => simp only [chain, List.cons_append, enumOptsLex, enumOptsText]
  | cons o os ih =>
    simp only [chain, List.cons_append, enumOptsLex, enumOptLex, enumOptsText, renderC_docLex, renderC_depLex,
      renderC_spLex, ih]

theorem renderC_membersLex (ms : List CUMember) (r : List Lexeme) :
    renderC (membersLex ms r) = membersText ms ++ renderC r := by
  induction ms with
  | nil => simp only [chain, List.cons_append, membersLex, membersText]
  | cons m ms ih =>
    cases m <;>
      simp only [chain, List.cons_append, membersLex, memberLex, membersText, memberText, structLex, messageLex,
        renderC_docLex, renderC_depLex, renderC_fieldsLex, renderC_msgFieldsLex, ih]

theorem renderC_flagsLex (fl : Bool) (r : List Lexeme) : renderC (flagsLex fl r) = flagsText fl ++ renderC r := by
  cases fl <;> simp only [chain, List.cons_append, flagsLex, flagsText]

theorem renderC_baseLex (b : Option Str) (r : List Lexeme) : renderC (baseLex b r) = baseText b ++ renderC r := by
  cases b <;> simp only [chain, List.cons_append, baseLex, baseText]

theorem renderC_defLex (d : CDef) (r : List Lexeme) : renderC (defLex d r) = defText d ++ renderC r := by
  cases d with
  | struct op ro name fields =>
    cases ro <;> simp only [chain, List.cons_append, defLex, defText, structLex, renderC_opLex, renderC_fieldsLex, if_true,
      if_false, Bool.false_eq_true]
  | message op name fields =>
    simp only [chain, List.cons_append, defLex, defText, messageLex, renderC_opLex, renderC_msgFieldsLex]
  | enum fl name base opts =>
    simp only [chain, List.cons_append, defLex, defText, renderC_flagsLex, renderC_baseLex, renderC_enumOptsLex]
  | union op name members => simp only [chain, List.cons_append, defLex, defText, renderC_opLex, renderC_membersLex]
  | const name v => simp only [chain, List.cons_append, defLex, defText]
  | import_ path => simp only [chain, List.cons_append, defLex, defText]

theorem renderC_fileLex (ds : CFile) (nl : Bool) : renderC (fileLex nl ds) = fileText nl ds := by
  induction ds generalizing nl with
  | nil => rfl
  | cons d ds ih =>
    cases h : (nl && d.doc.isEmpty) <;>
      simp only [chain, List.cons_append, fileLex, fileText, renderC_docLex, renderC_defLex, ih, h, if_true, if_false,
        Bool.false_eq_true]

/-- The canonical text of a schema, construct by construct. -/
theorem canonTextF_eq_fileText (f : CFile) : canonTextF f = fileText false f := renderC_fileLex f false

theorem enumOptsLen_ge : ∀ (os : List CEnumOpt), 2 ≤ enumOptsLen os
  | [] => Nat.le_refl 2
  | _ :: os => Nat.le_trans (enumOptsLen_ge os) (Nat.le_add_left ..)

theorem membersLen_ge : ∀ (ms : List CUMember), 2 ≤ membersLen ms
  | [] => Nat.le_refl 2
  | _ :: ms => Nat.le_trans (membersLen_ge ms) (Nat.le_add_left ..)

theorem fieldLen_mem : ∀ {fs : List CField} {g : CField}, g ∈ fs → fieldLen g ≤ fieldsLen fs := by
  intro fs g h
  induction h with
  | head => exact Nat.le_add_right ..
  | tail _ _ ih => exact Nat.le_trans ih (Nat.le_add_left ..)

theorem msgFieldLen_mem : ∀ {gs : List CMsgField} {g : CMsgField}, g ∈ gs → msgFieldLen g ≤ msgFieldsLen gs := by
  intro gs g h
  induction h with
  | head => exact Nat.le_add_right ..
  | tail _ _ ih => exact Nat.le_trans ih (Nat.le_add_left ..)

/-! ### what the parser and the formatter proofs both need of the lexemes -/

theorem toks_spLex (ts : List Token) (prev : TK) (r' : List Lexeme) : toks (spLex prev ts r') = ts ++ toks r' := by
  induction ts generalizing prev with
  | nil => rfl
  | cons tk ts ih => exact congrArg (tk :: ·) (ih _)

def firstKind : CType → TK
  | .name .. => .ident
  | .array .. => .kArray
  | .map .. => .kMap

/-- the first token of a type -/
theorem typeLex_first (ty : CType) (s : List Byte) (r : List Lexeme) :
    ∃ tk r', typeLex ty s r = ⟨s, tk⟩ :: r' ∧ tk.kind = firstKind ty := by
  cases ty <;> exact ⟨_, _, rfl, rfl⟩

theorem etok_not_semi (e : ETok) : (e.tok.kind == TK.semicolon) = false := by cases e <;> rfl

/-- the definition inside a member: `struct Name { … }` / `message Name { … }`, one tab deeper -/
def memberDefLex : CUMember → List Lexeme → List Lexeme
  | .struct _ _ _ name fields, r => structLex [32] [9, 9] name fields r
  | .message _ _ _ name fields, r => messageLex [32] [9, 9] name fields r

/-- a member without its doc and attribute lines: `idx ->` and the definition -/
def memberBodyLex (m : CUMember) (r : List Lexeme) : List Lexeme :=
  ⟨[9], tNum m.idx⟩ :: ⟨[32], tArrow⟩ :: memberDefLex m r

theorem memberLex_eq (m : CUMember) (r : List Lexeme) :
    memberLex m r = docLex [9] m.doc (depLex [9] m.dep (memberBodyLex m r)) := by
  cases m <;> rfl

end Canon
end Bebop.Text
