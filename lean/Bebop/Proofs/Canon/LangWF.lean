/-
  Canon/LangWF: what well-formedness of a schema gives.  The lexeme list of a well-formed schema is well-formed
  (`WFL`), hence the tokenizer delivers every admissible layout of it as exactly its tokens; and the pure functions
  the parser applies to token texts (`plainQuoted`, `trimQuotes`, `lineCommentText`, `goStringLitOk`, the type-name
  tests) return on its literals what the denotation says.
-/
import Bebop.Proofs.Canon.Lang

namespace Bebop.Text
namespace Canon

/-! ### the fixed tokens -/

@[wfl] theorem tok_nl : TokOk tNl := tokOk_single (by decide) (by decide)
@[wfl] theorem tok_open : TokOk tOpen := tokOk_single (by decide) (by decide)
@[wfl] theorem tok_close : TokOk tClose := tokOk_single (by decide) (by decide)
@[wfl] theorem tok_semi : TokOk tSemi := tokOk_single (by decide) (by decide)
@[wfl] theorem tok_lb : TokOk tLB := tokOk_single (by decide) (by decide)
@[wfl] theorem tok_rb : TokOk tRB := tokOk_single (by decide) (by decide)
@[wfl] theorem tok_lp : TokOk tLP := tokOk_single (by decide) (by decide)
@[wfl] theorem tok_rp : TokOk tRP := tokOk_single (by decide) (by decide)
@[wfl] theorem tok_comma : TokOk tComma := tokOk_single (by decide) (by decide)
@[wfl] theorem tok_eq : TokOk tEq := tokOk_single (by decide) (by decide)
@[wfl] theorem tok_colon : TokOk tColon := tokOk_single (by decide) (by decide)
@[wfl] theorem tok_arrow : TokOk tArrow := TokOk.arrow

@[wfl] theorem tok_kStruct : TokOk ⟨.kStruct, kwStruct⟩ := tokOk_kw (by decide) (by decide)
@[wfl] theorem tok_kReadOnly : TokOk ⟨.kReadOnly, kwReadonly⟩ := tokOk_kw (by decide) (by decide)
@[wfl] theorem tok_kMessage : TokOk ⟨.kMessage, kwMessage⟩ := tokOk_kw (by decide) (by decide)
@[wfl] theorem tok_kEnum : TokOk ⟨.kEnum, kwEnum⟩ := tokOk_kw (by decide) (by decide)
@[wfl] theorem tok_kDeprecated : TokOk ⟨.kDeprecated, kwDeprecated⟩ := tokOk_kw (by decide) (by decide)
@[wfl] theorem tok_kOpCode : TokOk ⟨.kOpCode, kwOpcode⟩ := tokOk_kw (by decide) (by decide)
@[wfl] theorem tok_kMap : TokOk ⟨.kMap, kwMap⟩ := tokOk_kw (by decide) (by decide)
@[wfl] theorem tok_kArray : TokOk ⟨.kArray, kwArray⟩ := tokOk_kw (by decide) (by decide)
@[wfl] theorem tok_kUnion : TokOk ⟨.kUnion, kwUnion⟩ := tokOk_kw (by decide) (by decide)
@[wfl] theorem tok_kConst : TokOk ⟨.kConst, kwConst⟩ := tokOk_kw (by decide) (by decide)
@[wfl] theorem tok_kImport : TokOk ⟨.kImport, kwImport⟩ := tokOk_kw (by decide) (by decide)
@[wfl] theorem tok_kTrue : TokOk ⟨.kTrue, kwTrue⟩ := tokOk_kw (by decide) (by decide)
@[wfl] theorem tok_kFalse : TokOk ⟨.kFalse, kwFalse⟩ := tokOk_kw (by decide) (by decide)
@[wfl] theorem tok_kFlags : TokOk ⟨.kFlags, kwFlags⟩ := tokOk_kw (by decide) (by decide)

theorem tok_id {s : Str} (h : IdentOk s = true) : TokOk (tId s) := by
  obtain ⟨h1, h2⟩ := identOk_split h
  exact tokOk_id h1 (keywordKind_eq s ▸ h2)

theorem tok_str {s : Str} (h : strBodyOk s = true) : TokOk (tStr s) := TokOk.str s h
theorem tok_num {s : Str} (h : numLitOk s = true) : TokOk (tNum s) := TokOk.num s h

/-! ### blanks, stops -/

attribute [wfl] Blanks.nil endsSticky_str
@[wfl] theorem blanks_sp : Blanks [32] := .of_all rfl
@[wfl] theorem blanks_tab : Blanks [9] := .of_all rfl
@[wfl] theorem blanks_tab2 : Blanks [9, 9] := .of_all rfl

@[wfl] theorem ss_nl : startsStop [10] = true := by decide
@[wfl] theorem ss_open : startsStop [123] = true := by decide
@[wfl] theorem ss_close : startsStop [125] = true := by decide
@[wfl] theorem ss_semi : startsStop [59] = true := by decide
@[wfl] theorem ss_lb : startsStop [91] = true := by decide
@[wfl] theorem ss_rb : startsStop [93] = true := by decide
@[wfl] theorem ss_lp : startsStop [40] = true := by decide
@[wfl] theorem ss_rp : startsStop [41] = true := by decide
@[wfl] theorem ss_comma : startsStop [44] = true := by decide
@[wfl] theorem ss_eq : startsStop [61] = true := by decide
@[wfl] theorem ss_colon : startsStop [58] = true := by decide
@[wfl] theorem ss_arrow : startsStop [45, 62] = true := by decide
@[wfl] theorem ss_str (s : Str) : startsStop (34 :: s) = true := by
  show stopByte 34 = true; decide

@[wfl] theorem es_nl : endsSticky [10] = false := by decide
@[wfl] theorem es_open : endsSticky [123] = false := by decide
@[wfl] theorem es_close : endsSticky [125] = false := by decide
@[wfl] theorem es_semi : endsSticky [59] = false := by decide
@[wfl] theorem es_lb : endsSticky [91] = false := by decide
@[wfl] theorem es_rb : endsSticky [93] = false := by decide
@[wfl] theorem es_lp : endsSticky [40] = false := by decide
@[wfl] theorem es_rp : endsSticky [41] = false := by decide
@[wfl] theorem es_comma : endsSticky [44] = false := by decide
@[wfl] theorem es_eq : endsSticky [61] = false := by decide
@[wfl] theorem es_colon : endsSticky [58] = false := by decide
@[wfl] theorem es_arrow : endsSticky [45, 62] = false := by decide

theorem tok_cmt {c : Str} (h : docLineOk c = true) : TokOk (tCmt c) := by
  refine TokOk.comment c (List.all_eq_true.2 fun x hx => ?_)
  have := List.all_eq_true.1 h x hx
  simp only [Bool.not_eq_true', Bool.or_eq_false_iff] at this
  rw [bne, this.2]; rfl

@[wfl] theorem ss_cmt (s : Str) : startsStop (47 :: s) = true := by
  show stopByte 47 = true; decide

@[wfl] theorem es_cmt (c : Str) : endsSticky (47 :: 47 :: (c ++ [10])) = false :=
  endsSticky_concat (47 :: 47 :: c) 10

attribute [wfl] implies_true true_and and_true false_imp_iff reduceCtorEq

/-! ### the constructs -/

/-- a first token that cannot follow a sticky end directly (a word, a number): written after a blank, or after
    nothing sticky -/
theorem WFL.head {q : Bool} {s : List Byte} {t : Token} {r : List Lexeme} (hs : Blanks s) (hq : s = [] → q = false)
    (ht : TokOk t) (hr : WFL (endsSticky t.concrete) r) : WFL q (⟨s, t⟩ :: r) :=
  ⟨ht, hs, fun h1 h2 => absurd ((hq h1).symm.trans h2) Bool.false_ne_true, hr⟩

theorem docLex_wf {ind : List Byte} (hi : Blanks ind) {cs : List Str} (hc : ∀ c ∈ cs, docLineOk c = true)
    {r : List Lexeme} (hr : WFL false r) : WFL false (docLex ind cs r) := by
  induction cs with
  | nil => exact hr
  | cons c cs ih =>
    obtain ⟨h, hc⟩ := List.forall_mem_cons.1 hc
    simp only [docLex, WFL, wfl, tok_cmt h, hi, ih hc]

theorem trailLex_wf {c : Option Str} (hc : ∀ x, c = some x → docLineOk x = true) {r : List Lexeme} (hr : WFL false r)
    (q : Bool) : WFL q (trailLex c r) := by
  cases c with
  | none => simp only [trailLex, WFL, wfl, hr]
  | some x => simp only [trailLex, WFL, wfl, tok_cmt (hc x rfl), hr]

theorem sufLex_wf (k : Nat) {r : List Lexeme} (hr : ∀ q, WFL q r) (q : Bool) : WFL q (sufLex k r) := by
  induction k generalizing q with
  | zero => exact hr q
  | succ k ih => simp only [sufLex, WFL, wfl, ih]

theorem typeLex_wf {ty : CType} (hty : CTypeOk ty) {s : List Byte} (hs : Blanks s) {r : List Lexeme}
    (hr : ∀ q, WFL q r) {q : Bool} (hq : s = [] → q = false) : WFL q (typeLex ty s r) := by
  induction ty generalizing s r q with
  | name n k => exact .head hs hq (tok_id hty) (sufLex_wf k hr _)
  | array t k ih =>
    refine .head hs hq tok_kArray ?_
    simp only [WFL, wfl]
    exact ih hty .nil (fun q => by simp only [WFL, wfl, sufLex_wf k hr]) fun _ => rfl
  | map key v k ih =>
    refine .head hs hq tok_kMap ?_
    simp only [WFL, wfl, tok_id hty.1]
    exact ih hty.2.2 blanks_sp (fun q => by simp only [WFL, wfl, sufLex_wf k hr]) nofun

theorem depLex_wf {ind : List Byte} (hi : Blanks ind) {d : Option Str} (hd : ∀ m, d = some m → strBodyOk m = true)
    {r : List Lexeme} (hr : WFL false r) : WFL false (depLex ind d r) := by
  cases d with
  | none => exact hr
  | some m => simp only [depLex, WFL, wfl, tok_str (hd m rfl), hi, hr]

theorem blanks_dropLast {ind : List Byte} (hi : Blanks ind) : Blanks ind.dropLast :=
  fun c hc => hi c (List.dropLast_subset ind hc)

theorem fieldsLex_wf {ind : List Byte} (hi : Blanks ind) {fs : List CField} (hf : ∀ f ∈ fs, CFieldOk f)
    {r : List Lexeme} (hr : WFL false r) : WFL false (fieldsLex ind fs r) := by
  induction fs with
  | nil => simp only [fieldsLex, WFL, wfl, blanks_dropLast hi, hr]
  | cons f fs ih =>
    obtain ⟨⟨h1, h2, h3, h4, h5⟩, hf⟩ := List.forall_mem_cons.1 hf
    refine docLex_wf hi (fun c hc => (h1 c hc).1) (depLex_wf hi h3 ?_)
    refine typeLex_wf h4 hi (fun q => ?_) fun _ => rfl
    simp only [WFL, wfl, tok_id h5, trailLex_wf h2 (ih hf)]

theorem msgFieldsLex_wf {ind : List Byte} (hi : Blanks ind) {gs : List CMsgField} (hg : ∀ g ∈ gs, CMsgFieldOk g)
    {r : List Lexeme} (hr : WFL false r) : WFL false (msgFieldsLex ind gs r) := by
  induction gs with
  | nil => simp only [msgFieldsLex, WFL, wfl, blanks_dropLast hi, hr]
  | cons g gs ih =>
    obtain ⟨⟨h1, h2, h3, h4, _, h6, h7⟩, hg⟩ := List.forall_mem_cons.1 hg
    refine docLex_wf hi (fun c hc => (h2 c hc).1) (depLex_wf hi h3 ?_)
    simp only [WFL, wfl, tok_num h4, hi]
    refine typeLex_wf h6 blanks_sp (fun q => ?_) nofun
    simp only [WFL, wfl, tok_id h7, trailLex_wf h1 (ih hg)]

/-- `keyword Name {` and the line break in front of a body: the head of a struct, a message or a union -/
theorem headLex_wf {q : Bool} {s : List Byte} (hs : Blanks s) (hq : s = [] → q = false) {kw : Token} (hk : TokOk kw)
    {name : Str} (hn : IdentOk name = true) {body : List Lexeme} (hb : WFL false body) :
    WFL q (⟨s, kw⟩ :: ⟨[32], tId name⟩ :: ⟨[32], tOpen⟩ :: ⟨[], tNl⟩ :: body) :=
  .head hs hq hk (by simp only [WFL, wfl, tok_id hn, hb])

theorem opLex_wf {op : Option OpLit} (hop : ∀ o, op = some o → OpLitOk o) {r : List Lexeme} (hr : WFL false r) :
    WFL false (opLex op r) := by
  cases op with
  | none => exact hr
  | some o =>
    have ho : TokOk (opLitTok o) := by
      cases o with
      | num lit => exact tok_num (hop _ rfl).1
      | str s => exact tok_str (hop _ rfl).1
    simp only [opLex, WFL, wfl, ho, hr]

/-- what `spLex` needs of a token of a member value: the formatter leaves the blank out only after `(`, which is
    not sticky, and before `)`, which starts with a stop byte — in neither place can two tokens run together -/
def SpOk (tk : Token) : Prop :=
  TokOk tk ∧ (tk.kind = .openParen → endsSticky tk.concrete = false) ∧
    (tk.kind = .closeParen → startsStop tk.concrete = true)

theorem etok_ok {e : ETok} (h : ETokOk e) : SpOk e.tok := by
  cases e with
  | lit s => exact ⟨tok_num h, nofun, nofun⟩
  | ref n => exact ⟨tok_id h, nofun, nofun⟩
  | bar => exact ⟨tokOk_single (by decide) (by decide), nofun, nofun⟩
  | amp => exact ⟨tokOk_single (by decide) (by decide), nofun, nofun⟩
  | shl => exact ⟨TokOk.shl, nofun, nofun⟩
  | shr => exact ⟨TokOk.shr, nofun, nofun⟩
  | lp => exact ⟨tok_lp, fun _ => es_lp, nofun⟩
  | rp => exact ⟨tok_rp, nofun, fun _ => ss_rp⟩

/-- the tokens of a member's `= value`, spaced as the formatter spaces them (`p`: the token before, of kind `prev`,
    ends in a letter or digit) -/
theorem spLex_wf {r : List Lexeme} (hr : ∀ q, WFL q r) {ts : List Token} (h : ∀ tk ∈ ts, SpOk tk) {prev : TK} {p : Bool}
    (hp : prev = .openParen → p = false) : WFL p (spLex prev ts r) := by
  induction ts generalizing prev p with
  | nil => exact hr p
  | cons tk ts ih =>
    obtain ⟨⟨h1, h2, h3⟩, h⟩ := List.forall_mem_cons.1 h
    rw [spLex]
    by_cases hk : tk.kind = .closeParen
    · rw [if_neg (by simp [hk])]
      exact ⟨h1, .nil, fun _ _ => h3 hk, ih h h2⟩
    by_cases hprev : prev = .openParen
    · rw [if_neg (by simp [hprev])]
      exact ⟨h1, .nil, fun _ hpt => absurd ((hp hprev).symm.trans hpt) Bool.false_ne_true, ih h h2⟩
    · rw [if_pos (by simp [hprev, hk])]
      exact ⟨h1, blanks_sp, nofun, ih h h2⟩

theorem enumOptsLex_wf {fl : Bool} {bits : Nat} {uns : Bool} {os : List CEnumOpt} {acc : List EnumOption}
    (ho : CEnumOptsOk fl bits uns acc os) {r : List Lexeme} (hr : WFL false r) : WFL false (enumOptsLex os r) := by
  induction os generalizing acc with
  | nil => simp only [enumOptsLex, WFL, wfl, hr]
  | cons o os ih =>
    obtain ⟨⟨h1, h2, h3, h4, _⟩, ho⟩ := ho
    refine docLex_wf blanks_tab h1 (depLex_wf blanks_tab h2 ?_)
    simp only [WFL, wfl, tok_id h3]
    refine spLex_wf (fun q => ?_)
      (List.forall_mem_cons.2 ⟨⟨tok_eq, nofun, nofun⟩, List.forall_mem_map.2 fun e he => etok_ok (h4 e he)⟩) nofun
    simp only [WFL, wfl, ih ho]

theorem membersLex_wf {ms : List CUMember} (hm : ∀ m ∈ ms, CUMemberOk m) {r : List Lexeme} (hr : WFL false r) :
    WFL false (membersLex ms r) := by
  induction ms with
  | nil => simp only [membersLex, WFL, wfl, hr]
  | cons m ms ih =>
    obtain ⟨hm0, hms⟩ := List.forall_mem_cons.1 hm
    cases m with
    | struct doc dep idx name fields =>
      obtain ⟨h0, h1, h2, _, h4, h5⟩ := hm0
      refine docLex_wf blanks_tab (fun c hc => (h0 c hc).1) (depLex_wf blanks_tab h1 ?_)
      simp only [WFL, wfl, tok_num h2]
      exact headLex_wf blanks_sp nofun tok_kStruct h4 (fieldsLex_wf blanks_tab2 h5 (ih hms))
    | message doc dep idx name fields =>
      obtain ⟨h0, h1, h2, _, h4, h5, _⟩ := hm0
      refine docLex_wf blanks_tab (fun c hc => (h0 c hc).1) (depLex_wf blanks_tab h1 ?_)
      simp only [WFL, wfl, tok_num h2]
      exact headLex_wf blanks_sp nofun tok_kMessage h4 (msgFieldsLex_wf blanks_tab2 h5 (ih hms))

theorem flagsLex_wf (fl : Bool) {r : List Lexeme} (hr : WFL false r) : WFL false (flagsLex fl r) := by
  cases fl with
  | false => exact hr
  | true => simp only [flagsLex, WFL, wfl, hr]

theorem constValTok_ok {v : CConstV} (h : CConstVOk v) : TokOk (constValTok v) := by
  cases v with
  | int ty lit => exact tok_num h.2.1
  | bool b => cases b with
    | false => exact tok_kFalse
    | true => exact tok_kTrue
  | str body => exact tok_str h
  | float ty neg ip fp => exact TokOk.float neg ip fp h.2.2.2.1 h.2.2.2.2.1 h.2.2.2.2.2.1 h.2.2.2.2.2.2
  | inf ty => exact tokOk_kw (by decide) (by decide)
  | negInf ty => exact TokOk.negInf
  | nan ty => exact tokOk_kw (by decide) (by decide)
  | guid body => exact tok_str h.1

theorem constTy_ok {v : CConstV} (h : CConstVOk v) : TokOk (tId (constTy v)) := by
  cases v with
  | int ty lit => exact tok_id h.1
  | bool b => exact tokOk_id (s := kwBool) (by decide) (by decide)
  | str body => exact tokOk_id (s := kwString) (by decide) (by decide)
  | float ty neg ip fp => exact tok_id h.1
  | inf ty => exact tok_id h.1
  | negInf ty => exact tok_id h.1
  | nan ty => exact tok_id h.1
  | guid body => exact tokOk_id (s := kwGuid) (by decide) (by decide)

theorem defLex_wf {d : CDef} (hd : CDefOk d) {r : List Lexeme} (hr : WFL false r) : WFL false (defLex d r) := by
  cases d with
  | struct op ro name fields =>
    obtain ⟨h1, h2, h3⟩ := hd
    have hb := fieldsLex_wf blanks_tab h3 hr
    refine opLex_wf h1 ?_
    cases ro with
    | false => exact headLex_wf .nil (fun _ => rfl) tok_kStruct h2 hb
    | true =>
      simp only [if_true, WFL, wfl]
      exact headLex_wf blanks_sp nofun tok_kStruct h2 hb
  | message op name fields =>
    obtain ⟨h1, h2, h3, _⟩ := hd
    exact opLex_wf h1 (headLex_wf .nil (fun _ => rfl) tok_kMessage h2 (msgFieldsLex_wf blanks_tab h3 hr))
  | union op name members =>
    obtain ⟨h1, h2, h3, _⟩ := hd
    exact opLex_wf h1 (headLex_wf .nil (fun _ => rfl) tok_kUnion h2 (membersLex_wf h3 hr))
  | enum fl name base opts =>
    obtain ⟨h1, h2, h3⟩ := hd
    have hbody := enumOptsLex_wf h3 hr
    refine flagsLex_wf fl ?_
    cases base with
    | none => simp only [baseLex, WFL, wfl, tok_id h1, hbody]
    | some b => simp only [baseLex, WFL, wfl, tok_id h1, tok_id (h2 b rfl).1, hbody]
  | const name v =>
    obtain ⟨h1, h2⟩ := hd
    simp only [defLex, WFL, wfl, constTy_ok h2, tok_id h1, constValTok_ok h2, hr]
  | import_ path =>
    simp only [defLex, WFL, wfl, tok_str hd, hr]

theorem fileLex_wf {f : CFile} (hf : ∀ d ∈ f, CTopOk d) (nl : Bool) : WFL false (fileLex nl f) := by
  induction f generalizing nl with
  | nil => trivial
  | cons d ds ih =>
    obtain ⟨⟨h1, _, h3⟩, hf⟩ := List.forall_mem_cons.1 hf
    have hd := docLex_wf .nil h1 (defLex_wf h3 (ih hf (nlAfter d.d)))
    cases h : (nl && d.doc.isEmpty) with
    | false => simpa [fileLex, h] using hd
    | true =>
      simp only [fileLex, h, if_true, List.singleton_append, WFL, wfl]
      exact hd

/-- The tokenizer delivers every admissible text of a well-formed schema as exactly its tokens. -/
theorem lex_schema (f : CFile) (hf : CFileOkP f) {bs : List Byte} (h : Laid false (fileLex false f) bs) :
    LexI (toks (fileLex false f)) bs :=
  lex_laid (fun lx hm => ((fileLex_wf hf.1 false).toks lx hm).1) h

theorem laid_laidOutF {f : CFile} (hf : CFileOkP f) {w : Nat → List Byte} (hw : LayoutOk w (fileLex false f)) :
    Laid false (fileLex false f) (laidOutF w f) :=
  (fileLex_wf hf.1 false).laid hw

theorem canonTextF_eq (f : CFile) : canonTextF f = laidOutF (canonW (fileLex false f)) f :=
  (render_canon _).symm

theorem canonW_layoutOk (f : CFile) (hf : CFileOkP f) : LayoutOk (canonW (fileLex false f)) (fileLex false f) :=
  canonW_ok (fileLex_wf hf.1 false)

/-! ### what the parser's pure functions make of the literals of a well-formed schema -/

theorem plainQuoted_str {m : Str} (h : strBodyOk m = true) : plainQuoted (34 :: (m ++ [34])) = some m := by
  simp only [plainQuoted, List.getLast?_concat, List.dropLast_concat]
  exact if_pos h

theorem dropWhile_none {α} (p : α → Bool) : ∀ {l : List α}, (∀ x ∈ l, p x = false) → l.dropWhile p = l
  | [], _ => rfl
  | a :: _, h => List.dropWhile_cons_of_neg (by rw [h a List.mem_cons_self]; exact Bool.false_ne_true)

/-- trimming `p` off both ends of `body`, which has no `p` inside, written between the runs `pre` and `post` of `p` -/
theorem trim_mid {α} (p : α → Bool) {pre body post : List α} (hpre : ∀ x ∈ pre, p x = true)
    (hb : ∀ x ∈ body, p x = false) (hpost : ∀ x ∈ post, p x = true) :
    (((pre ++ (body ++ post)).dropWhile p).reverse.dropWhile p).reverse = body := by
  rw [List.dropWhile_append_of_pos hpre]
  cases body with
  | nil => rw [List.nil_append, ← List.append_nil post, List.dropWhile_append_of_pos hpost]; rfl
  | cons a l =>
    rw [List.cons_append, List.dropWhile_cons_of_neg (by simp [hb a List.mem_cons_self]), ← List.cons_append,
      List.reverse_append, List.dropWhile_append_of_pos (fun x hx => hpost x (List.mem_reverse.1 hx)),
      dropWhile_none p (fun x hx => hb x (List.mem_reverse.1 hx)), List.reverse_reverse]

theorem lineCommentText_cmt {c : Str} (h : docLineOk c = true) : lineCommentText (tCmt c) = c := by
  simp only [docLineOk, List.all_eq_true, Bool.not_eq_true'] at h
  exact trim_mid (pre := []) (post := [10]) _ (fun _ hx => by cases hx) h (fun x hx => by rw [List.mem_singleton.1 hx]; rfl)

theorem trimQuotes_str {s : Str} (h : strBodyOk s = true) : trimQuotes (34 :: (s ++ [34])) = s := by
  simp only [strBodyOk, List.all_eq_true, Bool.and_eq_true, bne_iff_ne, ne_eq] at h
  exact trim_mid (pre := [34]) (post := [34]) _ (fun x hx => by rw [List.mem_singleton.1 hx]; rfl)
    (fun x hx => beq_eq_false_iff_ne.2 (h x hx).2) (fun x hx => by rw [List.mem_singleton.1 hx]; rfl)

theorem goEscapesOk_plain {body : Str} (hb : strBodyOk body = true) {f : Nat} (hf : body.length < f) :
    goEscapesOk f body = true := by
  induction body generalizing f with
  | nil => cases f with
    | zero => cases hf
    | succ f => rfl
  | cons c body ih => cases f with
    | zero => cases hf
    | succ f =>
      simp only [strBodyOk, List.all_cons, Bool.and_eq_true, decide_eq_true_eq, bne_iff_ne, ne_eq] at hb
      obtain ⟨⟨⟨⟨h1, _⟩, h3⟩, h4⟩, h5⟩ := hb
      have c0 : (c == 0) = false := beq_false_of_toNat fun h => absurd (h ▸ h1) (by decide)
      have c1 : (c == 0x0a) = false := beq_false_of_toNat fun h => absurd (h ▸ h1) (by decide)
      have hc : ¬(c == 0 || c == 0x0a || c == 0x22) = true := by rw [c0, c1, beq_false_of_ne h4]; decide
      -- the two tests are decided in place: rewriting would carry the escape branches of `goEscapesOk` along
      unfold goEscapesOk
      exact (if_neg hc).trans ((if_pos (bne_iff_ne.2 h3)).trans (ih h5 (Nat.lt_of_succ_lt_succ hf)))

theorem goStringLitOk_str {body : Str} (h : strBodyOk body = true) : goStringLitOk (34 :: (body ++ [34])) = true := by
  simp only [goStringLitOk, List.getLast?_concat, List.dropLast_concat, List.length_append, List.length_singleton]
  rw [goEscapesOk_plain h (Nat.lt_succ_of_lt (Nat.lt_succ_self _)), Bool.and_true]
  exact decide_eq_true (Nat.le_add_left 1 _)

/-- `bool`, `string` and `guid` are no number types -/
theorem not_number {s : Str} (h : s = kwBool ∨ s = kwString ∨ s = kwGuid) :
    (isUintName s || isIntName s) = false ∧ isFloatName s = false := by
  rw [isUintName_eq, isIntName_eq, isFloatName_eq]
  rcases h with rfl | rfl | rfl <;> exact ⟨rfl, rfl⟩

/-- a constant of type `string` is a plain string literal -/
theorem const_string {v : CConstV} (hv : CConstVOk v) (h : strEq (constTy v) "string" = true) :
    ∃ s, plainQuoted (constVal v) = some s := by
  have hty : constTy v = kwString := eq_of_beq (strEq_string _ ▸ h)
  have hn {ty : Str} (e : ty = kwString) := not_number (.inr (.inl e))
  cases v with
  | str body => exact ⟨_, plainQuoted_str hv⟩
  | bool bv => cases hty
  | guid body => cases hty
  | int ty lit =>
    obtain ⟨e1, e2⟩ := hn (ty := ty) hty
    have := hv.2.2
    rw [e1, e2] at this; cases this
  | float ty neg ip fp => cases (hn hty).2.symm.trans hv.2.2.1
  | inf ty => cases (hn hty).2.symm.trans hv.2.2
  | negInf ty => cases (hn hty).2.symm.trans hv.2.2
  | nan ty => cases (hn hty).2.symm.trans hv.2.2

theorem some_getD {α} {o : Option α} (h : o.isSome = true) (d : α) : o = some (o.getD d) :=
  (Option.some_get h).symm.trans (congrArg some (Option.get_eq_getD o))

theorem parseUint_idx {lit : Str} (h : (parseUint lit false 8).isSome = true) :
    parseUint lit false 8 = some (idxVal lit) :=
  some_getD h 0

/-- the facts about the base type of an enum that `readEnum` checks -/
theorem enumBase_facts (base : Option Str)
    (hb : ∀ b, base = some b → IdentOk b = true ∧ (isUintName b || isIntName b) = true ∧ (decodeInteger b).isSome = true) :
    (isUintName (enumBase base) || isIntName (enumBase base)) = true ∧
    decodeInteger (enumBase base) = some (enumBits base) := by
  cases base with
  | none => exact ⟨by rw [isUintName_eq]; rfl, by rw [enumBits, decodeInteger_eq]; rfl⟩
  | some b => exact ⟨(hb b rfl).2.1, some_getD (hb b rfl).2.2 _⟩

end Canon
end Bebop.Text
