/-
  Canon/Lexer: the tokenizer model, one step at a time, on the bytes the tokens of the sub-language are written
  with.  The literals of the sub-language, stop bytes and sticky ends; `findFirst` by the first byte;
  the loops for words, strings, numbers and comments; `next` on "clean" reader states; and the token-level
  abstraction `Lex`: `Lex l t` says that the reader state `t` delivers exactly the token list `l` through
  successive `next` calls and then ends cleanly (`next` returns false, no error, no panic, no decline).

  `LexI l inp` is the same for every clean state whose remaining input is `inp`; it is built from the end of
  the input, one token at a time: `LexI.eof`, then `LexI.of_ff` for a token `findFirst` builds (`LexI.single`
  among them) and `LexI.ident` for a word.  The parser / formatter proofs see none of this, only `LexI.at`.
-/
import Bebop.Proofs.TokenizerProgress
import Bebop.Proofs.Canon.ByteClass

namespace Bebop.Text

/-- Integer literals of the sub-language: decimal `d+`, hexadecimal `0x h+`, negative decimal `-d+`. -/
def numLitOk (s : List Byte) : Bool :=
  match s with
  | [] => false
  | c :: r =>
    (isNumeric c && r.all isNumeric) ||
    (c == 48 && (match r with
                 | x :: h :: hs => x == 120 && (h :: hs).all (fun d => isNumeric d || isHexLetter d)
                 | _ => false)) ||
    (c == 45 && (match r with
                 | d :: ds => (d :: ds).all isNumeric
                 | [] => false))

/-- The content of a plain string literal: printable ASCII without `"` and `\` (exactly the literals whose
    `strconv.Unquote` is their content, `plainQuoted`). -/
def strBodyOk (s : List Byte) : Bool :=
  s.all (fun c => 0x20 ≤ c.toNat && c.toNat < 0x7f && c != 0x5c && c != 0x22)

/-- The text of a `//` comment after the two slashes: anything without a line break. -/
def commentBodyOk (s : List Byte) : Bool := s.all (fun c => c != 10)

/-- A byte that ends every word and every number: ASCII, not a letter / digit / underscore / dot. -/
def stopByte (c : Byte) : Bool := decide (c.toNat < 0x80) && !identCont c && !(c == b '.')

/-- What may follow a word or a number in the input so that `identLoop` / `numberLoop` stop right there, without
    declining and without an error: the end of the input, or a stop byte. -/
def stop1 : List Byte → Bool
  | [] => true
  | c :: _ => stopByte c

/-- The text of a token that may follow a word or a number without a blank in between: it starts with a stop byte. -/
def startsStop : List Byte → Bool
  | [] => false
  | c :: _ => stopByte c

/-- the last byte is a letter, digit or underscore (words and numbers) -/
def endsSticky : List Byte → Bool
  | [] => false
  | [c] => identCont c
  | _ :: r => endsSticky r

namespace Canon

/-! ### stop bytes and sticky ends -/

theorem stopByte_spec {c : Byte} (h : stopByte c = true) :
    c.toNat < 0x80 ∧ identCont c = false ∧ (c == b '.') = false := by
  simp only [stopByte, Bool.and_eq_true, decide_eq_true_eq, Bool.not_eq_true'] at h
  exact ⟨h.1.1, h.1.2, h.2⟩

theorem stopByte_blank {c : Byte} (h : isBlank c = true) : stopByte c = true := by
  simp only [isBlank, Bool.or_eq_true, beq_iff_eq] at h
  -- `c` is one of three bytes
  rcases h with (h | h) | h <;> (obtain rfl := UInt8.ofNat_toNat.symm.trans (congrArg UInt8.ofNat h); rfl)

theorem stop_not_letter {c : Byte} (h : identCont c = false) (d : Byte) (hd : identCont d = true) :
    (c == d) = false :=
  beq_false_of_ne fun e => by rw [e, hd] at h; cases h

theorem blanks_stop1 {u : List Byte} (hu : Blanks u) {r : List Byte} (hr : stop1 r = true) : stop1 (u ++ r) = true := by
  cases u with
  | nil => exact hr
  | cons c u => exact stopByte_blank hu.head

theorem startsStop_stop1 {s : List Byte} (h : startsStop s = true) (r : List Byte) : stop1 (s ++ r) = true := by
  cases s with
  | nil => simp [startsStop] at h
  | cons c s => exact h

theorem endsSticky_concat : ∀ (l : List Byte) (c : Byte), endsSticky (l ++ [c]) = identCont c
  | [], _ => rfl
  | [_], _ => rfl
  | _ :: x :: l, c => endsSticky_concat (x :: l) c

theorem endsSticky_str (s : List Byte) : endsSticky (34 :: (s ++ [34])) = false :=
  endsSticky_concat (34 :: s) 34

/-- a text that ends in letters, digits or underscores -/
theorem endsSticky_tail (pre : List Byte) {l : List Byte} (h0 : l ≠ []) (h : ∀ x ∈ l, identCont x = true) :
    endsSticky (pre ++ l) = true := by
  rw [← List.dropLast_concat_getLast h0, ← List.append_assoc, endsSticky_concat]
  exact h _ (List.getLast_mem h0)

theorem endsSticky_ident {s : List Byte} (h : identBytes s = true) : endsSticky s = true := by
  cases s with
  | nil => simp [identBytes] at h
  | cons c r =>
    simp only [identBytes, Bool.and_eq_true, List.all_eq_true] at h
    exact endsSticky_tail [] (List.cons_ne_nil c r) (List.forall_mem_cons.2 ⟨by simp [identCont, h.1], h.2⟩)

/-- an integer literal is an optional `-` and digits, or `0x` and hex digits -/
theorem numLitOk_cases {s : List Byte} (h : numLitOk s = true) :
    (∃ (neg : Bool) (d : Byte) (ds : List Byte), s = (if neg then [45] else []) ++ d :: ds ∧ isNumeric d = true ∧
      ds.all isNumeric = true) ∨
    ∃ (d : Byte) (ds : List Byte), s = 48 :: 120 :: d :: ds ∧ (d :: ds).all (fun d => isNumeric d || isHexLetter d) = true := by
  cases s with
  | nil => simp [numLitOk] at h
  | cons c r =>
    simp only [numLitOk, Bool.or_eq_true, Bool.and_eq_true, beq_iff_eq] at h
    rcases h with (⟨hc, hr⟩ | ⟨rfl, hr⟩) | ⟨rfl, hr⟩
    · exact .inl ⟨false, c, r, rfl, hc, hr⟩
    · match r, hr with
      | x :: d :: ds, hr =>
        simp only [Bool.and_eq_true, beq_iff_eq] at hr
        exact .inr ⟨d, ds, by rw [hr.1], hr.2⟩
    · match r, hr with
      | d :: ds, hr =>
        simp only [List.all_cons, Bool.and_eq_true] at hr
        exact .inl ⟨true, d, ds, rfl, hr.1, hr.2⟩

theorem endsSticky_num {s : List Byte} (h : numLitOk s = true) : endsSticky s = true := by
  rcases numLitOk_cases h with ⟨neg, d, ds, rfl, hd, hds⟩ | ⟨d, ds, rfl, hds⟩
  · exact endsSticky_tail _ (List.cons_ne_nil d ds) (List.forall_mem_cons.2
      ⟨identCont_numeric hd, fun x hx => identCont_numeric (List.all_eq_true.1 hds x hx)⟩)
  · refine endsSticky_tail [48, 120] (List.cons_ne_nil d ds) fun x hx => ?_
    have := List.all_eq_true.1 hds x hx
    simp only [Bool.or_eq_true] at this
    exact this.elim identCont_numeric identCont_hex

/-! ### `findFirst` by the first byte

Where the first byte is a constant, the tests of `findFirst`'s chain are evaluated (`+decide`). -/

/-- what `next` asks of `findFirst`, when the input begins with the blanks `u` -/
theorem ff_blanks {rest : List Byte} : ∀ {u : List Byte}, Blanks u → ∀ (t : TR), t.inp = u ++ rest →
    ∃ l, findFirst (t.inp.length + 1) t = findFirst (rest.length + 1) { t with inp := rest, last := l }
  | [], _, t, hi => ⟨t.last, by cases t; cases hi; rfl⟩
  | c :: u, hu, t, hi => by
    obtain ⟨l, hl⟩ := ff_blanks hu.tail { t with inp := u ++ rest, last := some c } rfl
    exact ⟨l, by rw [hi, List.cons_append, List.length_cons, findFirst_blank _ t c _ hi (by rw [skips_contains, hu.head])]; exact hl⟩

theorem ff_letter {c : Byte} (hc : isAsciiLetter c = true) (fuel : Nat) (t : TR) (rest : List Byte) :
    findFirst (fuel + 1) { t with inp := c :: rest } = ({}, .no, { t with inp := rest, last := some c }) := by
  simp +decide only [findFirst, readByte, skips_contains, letter_not_blank hc, sbk_letter hc, beq_false_of_mem hc,
    letter_not_numeric hc, Bool.false_eq_true, if_false]

theorem ff_single {c : Byte} {k : TK} (hb : isBlank c = false) (hk : singleByteKind c = some k)
    (fuel : Nat) (t : TR) (rest : List Byte) :
    findFirst (fuel + 1) { t with inp := c :: rest } =
      ({ kind := k, concrete := [c] }, .tok, { t with inp := rest, last := some c }) := by
  simp only [findFirst, readByte, skips_contains, hb, hk, Bool.false_eq_true, if_false, simple]

theorem ff_eof (fuel : Nat) (t : TR) (hio : t.ioFail = false) :
    findFirst (fuel + 1) { t with inp := [] } = ({}, .eof, { t with inp := [] }) := by
  simp only [findFirst, readByte, hio, Bool.false_eq_true, if_false]

theorem ff_digit {c : Byte} (hc : isNumeric c = true) (fuel : Nat) (t : TR) (rest : List Byte) :
    findFirst (fuel + 1) { t with inp := c :: rest } = wrap numberToken { t with inp := rest, last := some c } [c] := by
  simp +decide only [findFirst, readByte, skips_contains, numeric_not_blank hc, sbk_numeric hc, beq_false_of_mem hc, hc,
    Bool.false_eq_true, if_false, if_true]

/-- at `-`: the dispatch on the byte after it -/
theorem ff_minus (d : Byte) (fuel : Nat) (t : TR) (rest : List Byte) :
    findFirst (fuel + 1) { t with inp := 45 :: d :: rest } =
      if isNumeric d then wrap numberToken { t with inp := rest, last := some d } [45, d]
      else if d == b 'i' then
        expectOne { t with inp := rest, last := some d } [45, d] [(b 'n', fun t conc =>
          expectOne t conc [(b 'f', fun t conc => simple .negInf conc t)])]
      else if d == b '>' then simple .arrow [45, d] { t with inp := rest, last := some d }
      else simple .arrow [45, b '>'] (addErr { t with inp := rest, last := some d } .other) := by
  simp +decide only [findFirst, readByte, sbk_minus, if_false, if_true]

/-- a number starts at a digit, or at `-` and a digit -/
theorem ff_sign_digit (neg : Bool) {d : Byte} (hd : isNumeric d = true) (fuel : Nat) (t : TR) (rest : List Byte) :
    findFirst (fuel + 1) { t with inp := (if neg then [45] else []) ++ d :: rest } =
      wrap numberToken { t with inp := rest, last := some d } ((if neg then [45] else []) ++ [d]) := by
  cases neg with
  | false => exact ff_digit hd fuel t rest
  | true => exact (ff_minus d fuel t rest).trans (if_pos hd)

/-- an inner node of the token tree at a byte it expects -/
theorem expectOne_hit {c c' : Byte} {k : TR → List Byte → Token × FR × TR} {opts : List (Byte × (TR → List Byte → Token × FR × TR))}
    {t : TR} {rest : List Byte} (hi : t.inp = c :: rest) (hf : opts.find? (·.1 == c) = some (c', k)) (conc : List Byte) :
    expectOne t conc opts = k { t with inp := rest, last := some c } (conc ++ [c]) := by
  simp only [expectOne, readByte, hi, hf]

theorem ff_arrow (fuel : Nat) (t : TR) (rest : List Byte) :
    findFirst (fuel + 1) { t with inp := 45 :: 62 :: rest } =
      ({ kind := .arrow, concrete := [45, 62] }, .tok, { t with inp := rest, last := some 62 }) := by
  rw [ff_minus, if_neg (by decide), if_neg (by decide), if_pos (by decide)]; rfl

theorem ff_negInf (fuel : Nat) (t : TR) (rest : List Byte) :
    findFirst (fuel + 1) { t with inp := 45 :: 105 :: 110 :: 102 :: rest } =
      ({ kind := .negInf, concrete := [45, 105, 110, 102] }, .tok, { t with inp := rest, last := some 102 }) := by
  rw [ff_minus, if_neg (by decide), if_pos (by decide), expectOne_hit (c := 110) rfl rfl, expectOne_hit (c := 102) rfl rfl]; rfl

theorem ff_shl (fuel : Nat) (t : TR) (rest : List Byte) :
    findFirst (fuel + 1) { t with inp := 60 :: 60 :: rest } =
      ({ kind := .dblLeft, concrete := [60, 60] }, .tok, { t with inp := rest, last := some 60 }) := by
  simp +decide only [findFirst, readByte, sbk_lt, if_false, if_true]
  rw [expectOne_hit (c := 60) rfl rfl]; rfl

theorem ff_shr (fuel : Nat) (t : TR) (rest : List Byte) :
    findFirst (fuel + 1) { t with inp := 62 :: 62 :: rest } =
      ({ kind := .dblRight, concrete := [62, 62] }, .tok, { t with inp := rest, last := some 62 }) := by
  simp +decide only [findFirst, readByte, sbk_gt, if_false, if_true]
  rw [expectOne_hit (c := 62) rfl rfl]; rfl

theorem wrap_eq {f : TR → List Byte → Token × TR} {t t' : TR} {conc : List Byte} {tk : Token} (h : f t conc = (tk, t')) :
    wrap f t conc = (tk, .tok, t') := by
  rw [wrap, h]

/-! ### words, strings, numbers, comments

The loops are stated at the fuel they are called with, the length of the input and one. -/

/-- The fields of the reader state that the canonical-language proofs track are unchanged. -/
structure Same (t t' : TR) : Prop where
  errs : t'.errs = t.errs
  pan : t'.panicked = t.panicked
  na : t'.nonAscii = t.nonAscii
  io : t'.ioFail = t.ioFail
  keep : t'.keep = t.keep

theorem Same.of_last {t t' : TR} {l : Option Byte} (h : Same { t with last := l } t') : Same t t' :=
  ⟨h.errs, h.pan, h.na, h.io, h.keep⟩

theorem identLoop_run : ∀ (s : List Byte), s.all identCont = true → ∀ (rest : List Byte), stop1 rest = true →
    ∀ (t : TR) (l : Option Byte) (conc : List Byte), t.ioFail = false →
    ∃ l', identLoop ((s ++ rest).length + 1) { t with inp := s ++ rest, last := l } conc =
      (true, setNext { t with inp := rest, last := l' } { kind := (keywordKind (conc ++ s)).getD .ident, concrete := conc ++ s })
  | [], _, [], _, t, l, conc, hio =>
    ⟨l, by simp only [identLoop, List.append_nil, hio, Bool.false_eq_true, if_false]⟩
  | [], _, c :: r, hstop, t, l, conc, hio => by
    obtain ⟨hlt, hc, _⟩ := stopByte_spec hstop
    simp only [identCont] at hc
    exact ⟨none, by simp only [identLoop, List.nil_append, List.append_nil, Nat.not_le.2 hlt, hc, Bool.false_eq_true, if_false]⟩
  | c :: s, hs, rest, hstop, t, l, conc, hio => by
    simp only [List.all_cons, Bool.and_eq_true] at hs
    obtain ⟨l', h⟩ := identLoop_run s hs.2 rest hstop t (some c) (conc ++ [c]) hio
    have hc := hs.1
    simp only [identCont] at hc
    refine ⟨l', ?_⟩
    simp only [identLoop, List.cons_append, identCont_lt hs.1, hc, if_true, if_false]
    simpa using h

theorem stringLoop_run : ∀ (body : List Byte), strBodyOk body = true → ∀ (t : TR) (l : Option Byte) (conc rest : List Byte),
    stringLoop ((body ++ 34 :: rest).length + 1) { t with inp := body ++ 34 :: rest, last := l } conc false =
      ({ kind := .strLit, concrete := conc ++ (body ++ [34]) }, { t with inp := rest, last := some 34 })
  | [], _, t, l, conc, rest => by
    simp +decide [stringLoop, readByte]
  | c :: body, hb, t, l, conc, rest => by
    simp only [strBodyOk, List.all_cons, Bool.and_eq_true, bne_iff_ne, ne_eq] at hb
    have h1 : (c == b '"') = false := beq_false_of_ne hb.1.2
    have h2 : (c == b '\\') = false := beq_false_of_ne hb.1.1.2
    rw [stringLoop]
    simp only [readByte, List.cons_append, h1, h2, Bool.false_and, Bool.false_eq_true, if_false]
    simpa using stringLoop_run body hb.2 t (some c) (conc ++ [c]) rest

theorem ff_string {body : List Byte} (hb : strBodyOk body = true) (fuel : Nat) (t : TR) (rest : List Byte) :
    findFirst (fuel + 1) { t with inp := 34 :: (body ++ [34]) ++ rest } =
      ({ kind := .strLit, concrete := 34 :: (body ++ [34]) }, .tok, { t with inp := rest, last := some 34 }) := by
  simp +decide only [List.cons_append, List.append_assoc, List.nil_append, findFirst, readByte, sbk_quote, if_false, if_true]
  exact wrap_eq (stringLoop_run body hb t (some 34) [34] rest)

/-- the digits of a literal are consumed one by one (hexadecimal digits, if `hex`) -/
theorem numberLoop_digits (kind : TK) (hex dec : Bool) (tail : List Byte) : ∀ (ds : List Byte),
    ds.all (fun d => isNumeric d || (hex && isHexLetter d)) = true →
    ∀ (t : TR) (l : Option Byte) (conc : List Byte) (second inv : Bool), ∃ l' second',
      numberLoop ((ds ++ tail).length + 1) { t with inp := ds ++ tail, last := l } conc kind second hex dec inv =
        numberLoop (tail.length + 1) { t with inp := tail, last := l' } (conc ++ ds) kind second' hex dec (inv && ds.isEmpty)
  | [], _, t, l, conc, second, inv => ⟨l, second, by simp⟩
  | d :: ds, hds, t, l, conc, second, inv => by
    simp only [List.all_cons, Bool.and_eq_true] at hds
    obtain ⟨l', s', h⟩ := numberLoop_digits kind hex dec tail ds hds.2 t (some d) (conc ++ [d]) false false
    refine ⟨l', s', ?_⟩
    have hd := hds.1
    have hr : 0x30 ≤ d.toNat ∧ d.toNat ≤ 0x66 := by
      simp only [Bool.or_eq_true, Bool.and_eq_true] at hd
      rcases hd with h | ⟨_, h⟩
      · have := numeric_range h; omega
      · have := hex_range h; omega
    have hx : (d == b 'x') = false := by apply beq_false_of_toNat; rw [b_toNat_x]; omega
    have hdot : (d == b '.') = false := by apply beq_false_of_toNat; rw [b_toNat_dot]; omega
    simp only [List.append_assoc, List.singleton_append, Bool.false_and] at h
    rw [numberLoop]
    simp only [readByte, List.cons_append, hx, hdot, Bool.and_false, Bool.false_eq_true, if_false, List.isEmpty_cons]
    cases hn : isNumeric d with
    | true => exact h
    | false =>
      rw [hn, Bool.false_or] at hd
      rw [if_neg Bool.false_ne_true, if_pos hd]
      exact h

/-- a number ends, without an error, at the end of the input and in front of a stop byte -/
theorem numberLoop_stop (kind : TK) (second hex dec : Bool) {rest : List Byte} (hstop : stop1 rest = true) (fuel : Nat)
    (t : TR) (l : Option Byte) (conc : List Byte) (hio : t.ioFail = false) :
    ∃ t', numberLoop (fuel + 1) { t with inp := rest, last := l } conc kind second hex dec false =
        ({ kind := kind, concrete := conc }, t') ∧ Same t t' ∧ t'.inp = rest := by
  cases rest with
  | nil => exact ⟨{ t with inp := [], last := l }, by simp [numberLoop, readByte, hio], ⟨rfl, rfl, rfl, rfl, rfl⟩, rfl⟩
  | cons c r =>
    obtain ⟨_, hc, hdot⟩ := stopByte_spec hstop
    have hx : (c == b 'x') = false := stop_not_letter hc _ (by decide)
    have he : (c == b 'e') = false := stop_not_letter hc _ (by decide)
    have hnum : isNumeric c = false := Bool.eq_false_iff.2 fun h => Bool.eq_false_iff.1 hc (identCont_numeric h)
    have hhex : isHexLetter c = false := Bool.eq_false_iff.2 fun h => Bool.eq_false_iff.1 hc (identCont_hex h)
    exact ⟨setNext { t with inp := c :: r, last := none } { kind := kind, concrete := conc },
      by simp [numberLoop, readByte, hx, he, hdot, hnum, hhex, unreadByte], ⟨rfl, rfl, rfl, rfl, rfl⟩, rfl⟩

theorem numberLoop_run (kind : TK) (hex dec : Bool) {ds : List Byte}
    (hds : ds.all (fun d => isNumeric d || (hex && isHexLetter d)) = true) {rest : List Byte} (hstop : stop1 rest = true)
    (t : TR) (l : Option Byte) (conc : List Byte) (second : Bool) {inv : Bool} (hinv : (inv && ds.isEmpty) = false)
    (hio : t.ioFail = false) :
    ∃ t', numberLoop ((ds ++ rest).length + 1) { t with inp := ds ++ rest, last := l } conc kind second hex dec inv =
        ({ kind := kind, concrete := conc ++ ds }, t') ∧ Same t t' ∧ t'.inp = rest := by
  obtain ⟨l', s', e⟩ := numberLoop_digits kind hex dec rest ds hds t l conc second inv
  rw [e, hinv]
  exact numberLoop_stop kind s' hex dec hstop _ t l' _ hio

theorem ff_number {s : List Byte} (hs : numLitOk s = true) {rest : List Byte} (hstop : stop1 rest = true)
    (fuel : Nat) (t : TR) (hio : t.ioFail = false) :
    ∃ t', findFirst (fuel + 1) { t with inp := s ++ rest } = ({ kind := .intLit, concrete := s }, .tok, t') ∧
      Same t t' ∧ t'.inp = rest := by
  rcases numLitOk_cases hs with ⟨neg, d, ds, rfl, hd, hds⟩ | ⟨d, ds, rfl, hds⟩
  · obtain ⟨t', h1, h2⟩ := numberLoop_run .intLit false false (ds := ds) (by simpa using hds) hstop t (some d)
      ((if neg then [45] else []) ++ [d]) true (inv := false) rfl hio
    refine ⟨t', ?_, h2⟩
    rw [List.append_assoc, List.cons_append, ff_sign_digit neg hd]
    exact wrap_eq (by simpa [numberToken] using h1)
  · obtain ⟨t', h1, h2⟩ := numberLoop_run .intLit true false (ds := d :: ds) (by simpa using hds) hstop t (some 120) [48, 120]
      false (inv := true) rfl hio
    refine ⟨t', ?_, h2⟩
    rw [List.cons_append, ff_digit (by decide)]
    refine wrap_eq ?_
    rw [numberToken, numberLoop]
    simpa +decide [readByte] using h1

theorem numberLoop_float {ip fp : List Byte} (hip : ip.all isNumeric = true) (hfp0 : fp ≠ []) (hfp : fp.all isNumeric = true)
    {rest : List Byte} (hstop : stop1 rest = true) (t : TR) (l : Option Byte) (conc : List Byte) (second inv : Bool)
    (hio : t.ioFail = false) :
    ∃ t', numberLoop ((ip ++ 46 :: (fp ++ rest)).length + 1) { t with inp := ip ++ 46 :: (fp ++ rest), last := l } conc
        .intLit second false false inv =
        ({ kind := .floatLit, concrete := conc ++ (ip ++ 46 :: fp) }, t') ∧ Same t t' ∧ t'.inp = rest := by
  obtain ⟨l', s', e⟩ := numberLoop_digits .intLit false false (46 :: (fp ++ rest)) ip (by simpa using hip) t l conc second inv
  obtain ⟨t', h⟩ := numberLoop_run .floatLit false true (ds := fp) (by simpa using hfp) hstop t (some 46) (conc ++ ip ++ [46])
    false (inv := true) (by simpa using hfp0) hio
  refine ⟨t', ?_⟩
  rw [e, numberLoop]
  simpa +decide [readByte] using h

theorem ff_float (neg : Bool) {ip fp : List Byte} (hip0 : ip ≠ []) (hip : ip.all isNumeric = true) (hfp0 : fp ≠ [])
    (hfp : fp.all isNumeric = true) {rest : List Byte} (hstop : stop1 rest = true) (fuel : Nat) (t : TR)
    (hio : t.ioFail = false) :
    ∃ t', findFirst (fuel + 1) { t with inp := (if neg then [45] else []) ++ (ip ++ 46 :: fp) ++ rest } =
        ({ kind := .floatLit, concrete := (if neg then [45] else []) ++ (ip ++ 46 :: fp) }, .tok, t') ∧
      Same t t' ∧ t'.inp = rest := by
  cases ip with
  | nil => exact absurd rfl hip0
  | cons d ip =>
    simp only [List.all_cons, Bool.and_eq_true] at hip
    obtain ⟨t', h1, h2⟩ := numberLoop_float hip.2 hfp0 hfp hstop t (some d) ((if neg then [45] else []) ++ [d]) true false hio
    refine ⟨t', ?_, h2⟩
    rw [List.append_assoc, List.cons_append, List.cons_append, List.append_assoc, ff_sign_digit neg hip.1]
    exact wrap_eq (by simpa [numberToken] using h1)

theorem ff_comment {body : List Byte} (hb : commentBodyOk body = true) (fuel : Nat) (t : TR) (rest : List Byte) :
    findFirst (fuel + 1) { t with inp := 47 :: 47 :: (body ++ [10]) ++ rest } =
      ({ kind := .lineComment, concrete := 47 :: 47 :: (body ++ [10]) }, .tok, { t with inp := rest, last := some 10 }) := by
  simp +decide only [List.cons_append, List.append_assoc, List.nil_append, findFirst, readByte, sbk_slash, if_false, if_true]
  rw [expectOne_hit (c := 47) rfl rfl]
  simp [wrap, lineCommentToken, List.takeWhile_append_of_pos (List.all_eq_true.1 hb)]

/-! ### next on clean states -/

/-- A clean reader state: nothing recorded, nothing declined, the reader will end with EOF, and no token
    is held back. -/
structure Ok (t : TR) : Prop where
  errs : t.errs = []
  pan : t.panicked = false
  na : t.nonAscii = false
  io : t.ioFail = false
  keep : t.keep = false

theorem Ok.of_same {t t' : TR} (h : Ok t) (s : Same t t') : Ok t' :=
  ⟨by rw [s.errs, h.errs], by rw [s.pan, h.pan], by rw [s.na, h.na], by rw [s.io, h.io], by rw [s.keep, h.keep]⟩

theorem ok_setNext {t : TR} (h : Ok t) (tk : Token) : Ok (setNext t tk) :=
  ⟨h.errs, h.pan, h.na, h.io, h.keep⟩

theorem keep_false_eq {t : TR} (h : t.keep = false) : ({ t with keep := false } : TR) = t := by
  cases t; simp_all

/-- `next` right after `UnNext` on a state that holds no token back: the state is restored. -/
theorem next_unNext (t : TR) (h : t.keep = false) : next { t with keep := true } = (true, t) :=
  (next_of_keep _ rfl).trans (congrArg _ (keep_false_eq h))

/-! ### the token-level view -/

/-- `Lex l t`: from the clean state `t`, successive `next` calls deliver exactly the tokens `l`, landing in
    a clean state each time, and then `next` returns false, again in a clean state. -/
def Lex : List Token → TR → Prop
  | [], t => Ok t ∧ ∃ t', next t = (false, t') ∧ Ok t' ∧ t'.inp = [] ∧ t'.nextTok = t.nextTok
  | tok :: l, t => Ok t ∧ ∃ t', next t = (true, t') ∧ t'.nextTok = tok ∧ Lex l t'

theorem Lex.ok : ∀ {l : List Token} {t : TR}, Lex l t → Ok t
  | [], _, h => h.1
  | _ :: _, _, h => h.1

/-- every token delivered consumes at least one byte -/
theorem Lex.length_le : ∀ {l : List Token} {t : TR}, Lex l t → l.length ≤ t.inp.length
  | [], _, _ => Nat.zero_le _
  | _ :: _, t, ⟨ht, t', hn, _, hl⟩ => by
    have : t'.inp.length < t.inp.length := by simpa [hn] using next_true_lt t (by rw [hn]) ht.keep
    have := hl.length_le
    simp only [List.length_cons]
    omega

/-- Every clean reader state whose remaining input is `inp` delivers the tokens `l` and ends cleanly. -/
def LexI (l : List Token) (inp : List Byte) : Prop := ∀ t, Ok t → t.inp = inp → Lex l t

theorem LexI.eof {u : List Byte} (hu : Blanks u) : LexI [] u := by
  intro t ht hi
  obtain ⟨l, e⟩ := ff_blanks (rest := []) hu t (by rw [hi, List.append_nil])
  refine ⟨ht, { t with inp := [], last := l }, ?_, ⟨ht.errs, ht.pan, ht.na, ht.io, ht.keep⟩, rfl, rfl⟩
  unfold next
  simp [ht.keep, e.trans (ff_eof _ { t with last := l } ht.io)]

/-- `next` on clean states, past the blanks `u`, when `findFirst` builds the token `tk` from the bytes `s` -/
theorem LexI.of_ff {s rest : List Byte} {tk : Token}
    (hff : ∀ fuel t, t.ioFail = false → ∃ t', findFirst (fuel + 1) { t with inp := s ++ rest } = (tk, .tok, t') ∧
      Same t t' ∧ t'.inp = rest)
    {u : List Byte} (hu : Blanks u) {l : List Token} (hl : LexI l rest) : LexI (tk :: l) (u ++ (s ++ rest)) := by
  intro t ht hi
  obtain ⟨lst, e⟩ := ff_blanks hu t hi
  obtain ⟨t1, h1, h2, h3⟩ := hff (s ++ rest).length { t with last := lst } ht.io
  have ht1 : Ok t1 := ht.of_same h2.of_last
  refine ⟨ht, _, ?_, rfl, hl _ (ok_setNext ht1 tk) h3⟩
  unfold next
  simp [ht.keep, e.trans h1, ht1.errs]

/-- … when `findFirst` looks no further than the token's last byte `c` -/
theorem LexI.of_ff_eq {s rest : List Byte} {tk : Token} {c : Byte}
    (hff : ∀ fuel (t : TR), findFirst (fuel + 1) { t with inp := s ++ rest } = (tk, .tok, { t with inp := rest, last := some c }))
    {u : List Byte} (hu : Blanks u) {l : List Token} (hl : LexI l rest) : LexI (tk :: l) (u ++ (s ++ rest)) :=
  LexI.of_ff (fun fuel t _ => ⟨_, hff fuel t, ⟨rfl, rfl, rfl, rfl, rfl⟩, rfl⟩) hu hl

theorem LexI.single {c : Byte} {k : TK} (hb : isBlank c = false) (hk : singleByteKind c = some k)
    {u : List Byte} (hu : Blanks u) {l : List Token} {rest : List Byte} (hl : LexI l rest) :
    LexI ({ kind := k, concrete := [c] } :: l) (u ++ c :: rest) :=
  LexI.of_ff_eq (s := [c]) (fun fuel t => ff_single hb hk fuel t rest) hu hl

/-- a word: `findFirst` finds nothing at a letter, and `next` goes on to read an identifier -/
theorem LexI.ident {id : List Byte} (hid : identBytes id = true) {rest : List Byte} (hstop : stop1 rest = true)
    {u : List Byte} (hu : Blanks u) {l : List Token} (hl : LexI l rest) :
    LexI ({ kind := (keywordKind id).getD .ident, concrete := id } :: l) (u ++ (id ++ rest)) := by
  intro t ht hi
  cases id with
  | nil => simp [identBytes] at hid
  | cons c s =>
    simp only [identBytes, Bool.and_eq_true] at hid
    obtain ⟨lst, e⟩ := ff_blanks hu t hi
    obtain ⟨l', h⟩ := identLoop_run s hid.2 rest hstop t (some c) [c] ht.io
    refine ⟨ht, setNext { t with inp := rest, last := l' } _, ?_, rfl, hl _ (ht.of_same ⟨rfl, rfl, rfl, rfl, rfl⟩) rfl⟩
    unfold next
    rw [e.trans (ff_letter hid.1 _ _ _)]
    simpa [ht.keep, ht.errs, ht.pan, unreadByte, letter_lt hid.1, hid.1] using h

end Canon
end Bebop.Text
