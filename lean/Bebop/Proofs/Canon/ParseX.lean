/-
  Canon/ParseX: the ReadFile model on the token list of a schema of the extended sub-language returns
  the `File` the schema denotes.
-/
import Bebop.Proofs.Parser
import Bebop.Proofs.Canon.Cursor
import Bebop.Proofs.Canon.LangWF

namespace Bebop.Text
namespace Canon

theorem pure_apply {α} (a : α) (t : TR) : (pure a : P α) t = .ok a t := rfl
theorem bind_bind_pure {α β γ} (a : α) (k1 : α → P β) (k2 : β → P γ) (t : TR) :
    (((pure a : P α) >>= k1) >>= k2) t = (k1 a >>= k2) t := rfl

/-! ### the parser's helpers -/

theorem expectSeq_runs : ∀ (ts : List Token) (c : Token) (k : Bool) (l : List Token),
    Runs (expectSeq (ts.map (·.kind))) ⟨c, k, ts ++ l⟩ ts ⟨ts.getLastD c, ts.isEmpty && k, l⟩
  | [], c, k, l => Runs.pure _ _
  | x :: ts, c, k, l => by
    refine (Runs.next_cons c k x _).bind ((Runs.hasErr _).bind ((Runs.tok _).bind (Runs.if_false (bne_self_eq_false _) ?_)))
    refine (expectSeq_runs ts x false l).bind ?_
    cases ts <;> exact Runs.pure _ _

theorem expectAnyOf_runs {ks : List TK} {x : Token} (hk : ks.contains x.kind = true) (c : Token) (k : Bool)
    (l : List Token) : Runs (expectAnyOf ks) ⟨c, k, x :: l⟩ () ⟨x, false, l⟩ :=
  (Runs.next_cons c k x l).bind ((Runs.hasErr _).bind ((Runs.tok _).bind (Runs.if_true hk (Runs.pure _ _))))

theorem optNewline_nl (c : Token) (k : Bool) (l : List Token) : Runs optNewline ⟨c, k, tNl :: l⟩ () ⟨tNl, false, l⟩ :=
  (Runs.next_cons c k tNl l).bind ((Runs.tok _).bind (Runs.pure _ _))
theorem skipEol_nl (c : Token) (k : Bool) (l : List Token) :
    ∀ f, Runs (skipEolComments f) ⟨c, k, tNl :: l⟩ () ⟨tNl, true, tNl :: l⟩ :=
  Runs.step (fun _ => (Runs.next_cons c k tNl l).bind ((Runs.tok _).bind (Runs.unNext _ _))) rfl

theorem skipEol_cmt (c : Token) (k : Bool) (d : Str) (l : List Token) :
    ∀ f, Runs (skipEolComments f) ⟨c, k, tCmt d :: l⟩ () ⟨tCmt d, false, l⟩ :=
  Runs.step (fun _ => (Runs.next_cons c k _ l).bind ((Runs.tok _).bind (Runs.pure _ _))) rfl

/-! ### types -/

/-- what follows the base of a type in `readFieldType`: look ahead, then the `[]` suffix loop -/
def sufK (f : Nat) (ft : FT) : P FT := do
  let nx ← pNext
  if !nx then pure ft else readFieldType.suffixLoop f ft

theorem suffix_runs (x : Lexeme) (r : List Lexeme) (hx : x.tok.kind ≠ .openSquare) : ∀ (k f : Nat) (ft : FT) (c : Token) (b : Bool),
    Runs (sufK f ft) ⟨c, b, toks (sufLex k (x :: r))⟩ (wrapArr k ft) ⟨x.tok, true, toks (x :: r)⟩
  | k, 0, ft, c, b => by
    rw [sufK]
    cases k <;> exact (Runs.next_cons c b _ _).bind (Runs.fuel _ _ _)
  | 0, f + 1, ft, c, b => by
    rw [sufK, readFieldType.suffixLoop]
    refine (Runs.next_cons c b x.tok _).bind ((Runs.tok _).bind (Runs.if_false (beq_eq_false_iff_ne.2 hx) ?_))
    exact (Runs.unNext _ _).bind (Runs.pure _ _)
  | k + 1, f + 1, ft, c, b => by
    rw [sufK, readFieldType.suffixLoop]
    refine (Runs.next_cons c b tLB _).bind ?_
    refine (Runs.tok _).bind ?_
    refine (expectSeq_runs [tRB] _ _ _).bind ?_
    exact suffix_runs x r hx k f (.arr ft) _ _

theorem type_runs : ∀ (ty : CType), CTypeOk ty → ∀ (s : List Byte) (x : Lexeme) (r : List Lexeme),
    x.tok.kind ≠ .openSquare → ∀ (f : Nat) (c : Token) (b : Bool),
    Runs (readFieldType f) ⟨c, b, toks (typeLex ty s (x :: r))⟩ (ftOf ty) ⟨x.tok, true, toks (x :: r)⟩
  | _, _, _, _, _, _, 0, _, _ => Runs.fuel _ _ _
  | .name n k, _, s, x, r, hx, f + 1, c, b => by
    rw [readFieldType]
    refine (expectAnyOf_runs rfl c b _).bind ?_
    refine (Runs.tok _).bind ?_
    exact suffix_runs x r hx k f (.simple n) _ _
  | .array ty k, hty, s, x, r, hx, f + 1, c, b => by
    rw [readFieldType]
    refine (expectAnyOf_runs rfl c b _).bind ?_
    refine (Runs.tok _).bind ?_
    refine Runs.bind ?_ (suffix_runs x r hx k f (.arr (ftOf ty)) tRB false)
    refine (expectSeq_runs [tLB] _ _ _).bind ?_
    refine (type_runs ty hty [] ⟨[], tRB⟩ _ (by decide) f _ _).bind ?_
    exact (expectSeq_runs [tRB] _ _ _).bind (Runs.pure _ _)
  | .map key ty k, hty, s, x, r, hx, f + 1, c, b => by
    rw [readFieldType]
    refine (expectAnyOf_runs rfl c b _).bind ?_
    refine (Runs.tok _).bind ?_
    refine Runs.bind ?_ (suffix_runs x r hx k f (.map key (ftOf ty)) tRB false)
    refine (expectSeq_runs [tLB] _ _ _).bind ?_
    refine (type_runs (.name key 0) hty.1 [] ⟨[], tComma⟩ _ (by decide) f _ _).bind ?_
    refine Runs.if_false (congrArg not hty.2.1) ((expectSeq_runs [tComma] _ _ _).bind ?_)
    refine (type_runs ty hty.2.2 [32] ⟨[], tRB⟩ _ (by decide) f _ _).bind ?_
    exact (expectSeq_runs [tRB] _ _ _).bind (Runs.pure _ _)

/-! ### attributes -/

theorem deprecated_runs {m : Str} (hm : strBodyOk m = true) (c : Token) (b : Bool) (l : List Token) :
    Runs readDeprecated ⟨c, b, ⟨.kDeprecated, kwDeprecated⟩ :: tLP :: tStr m :: tRP :: tRB :: tNl :: l⟩ m ⟨tNl, false, l⟩ := by
  refine (expectSeq_runs [⟨.kDeprecated, kwDeprecated⟩, tLP, tStr m, tRP, tRB] _ _ _).bind ?_
  simp only [List.getD_cons_succ, List.getD_cons_zero, unquote, plainQuoted_str hm]
  exact (Runs.pure _ _).bind ((optNewline_nl _ _ _).bind (Runs.pure _ _))

/-! ### what the body loops have in common -/

/-- The shape of the four body loops: without fuel they give up, at `}` they return what they have collected, otherwise
    they go on with `R`.  (`readStruct.loop.eq_def fuel : BodyLoop (readStruct.loop fuel) _`, and so for the others.) -/
def BodyLoop {β} (L : Nat → List β → BodySt → P (List β)) (R : List β → BodySt → Nat → P (List β)) : Prop :=
  ∀ f acc st, L f acc st = match f with
    | 0 => outOfFuel
    | f + 1 => do
      let cur ← pTok
      if cur.kind == .closeCurly then pure acc else R acc st f

section
variable {β : Type} {L : Nat → List β → BodySt → P (List β)}

theorem BodyLoop.atClose {R : List β → BodySt → Nat → P (List β)} (hL : BodyLoop L R) {acc : List β} {st : BodySt}
    {l : List Token} : ∀ f, Runs (L f acc st) ⟨tClose, false, l⟩ acc ⟨tClose, false, l⟩
  | 0 => hL .. ▸ Runs.fuel _ _ _
  | _ + 1 => hL .. ▸ (Runs.tok _).bind (Runs.pure _ _)

theorem BodyLoop.notClose {R : List β → BodySt → Nat → P (List β)} (hL : BodyLoop L R) {acc : List β} {st : BodySt}
    {s : Cur} {a : List β} {s' : Cur} (hc : s.tok.kind ≠ .closeCurly) (h : ∀ f, Runs (R acc st f) s a s') :
    ∀ f, Runs (L f acc st) s a s'
  | 0 => hL .. ▸ Runs.fuel _ _ _
  | f + 1 => hL .. ▸ (Runs.tok _).bind (Runs.if_false (beq_eq_false_iff_ne.2 hc) (h f))

/-- one round of `readStruct.loop`, `readEnum.loop`, `readUnion.loop`: unless the current token is `}`, the next token
    is read and looked at (`K`) -/
theorem round_runs {K : List β → BodySt → Nat → Token → P (List β)}
    (hL : BodyLoop L fun acc st f => do
      let nx ← pNext
      if !nx then fail
      else
        let tk ← pTok
        K acc st f tk)
    {acc : List β} {st : BodySt} {c x : Token} {b : Bool} {l : List Token} {a : List β} {s' : Cur}
    (hc : c.kind ≠ .closeCurly) (h : ∀ f, Runs (K acc st f x) ⟨x, false, l⟩ a s') :
    ∀ f, Runs (L f acc st) ⟨c, b, x :: l⟩ a s' :=
  hL.notClose hc fun f => (Runs.next_cons _ _ _ _).bind ((Runs.tok _).bind (h f))

/-- `readMessage.loop` reads the next token with `expectAnyOf` instead -/
theorem msgRound_runs {K : List β → BodySt → Nat → Token → P (List β)}
    (hL : BodyLoop L fun acc st f => do
      expectAnyOf [.newline, .intLit, .openSquare, .blockComment, .lineComment, .closeCurly]
      let tk ← pTok
      K acc st f tk)
    {acc : List β} {st : BodySt} {c x : Token} {b : Bool} {l : List Token} {a : List β} {s' : Cur}
    (hc : c.kind ≠ .closeCurly)
    (hx : [TK.newline, .intLit, .openSquare, .blockComment, .lineComment, .closeCurly].contains x.kind = true)
    (h : ∀ f, Runs (K acc st f x) ⟨x, false, l⟩ a s') :
    ∀ f, Runs (L f acc st) ⟨c, b, x :: l⟩ a s' :=
  hL.notClose hc fun f => (expectAnyOf_runs hx _ _ _).bind ((Runs.tok _).bind (h f))

end

/-- What the body loops of the parser have in common (`tags`: the tags the loop reads off the `//` lines; an enum reads
    none).  At a token that is not `}`: a `//` line joins the pending comments, a `[deprecated("…")]` line, which comes
    after them, is recorded, a line break drops the pending comments, and `}` ends the loop. -/
structure Body {β} (ok : Str → Prop) (tags : List Str → List Tag) (L : Nat → List β → BodySt → P (List β)) : Prop where
  cmt : ∀ {acc cs c b d l a s'}, c.kind ≠ .closeCurly → ok d →
    (∀ f, Runs (L f acc { comments := cs ++ [d], tags := tags (cs ++ [d]) }) ⟨tCmt d, false, l⟩ a s') →
    ∀ f, Runs (L f acc { comments := cs, tags := tags cs }) ⟨c, b, tCmt d :: l⟩ a s'
  dep : ∀ {acc cs ts c b m l a s'}, c.kind ≠ .closeCurly → strBodyOk m = true →
    (∀ f, Runs (L f acc { comments := cs, tags := ts, isDep := true, depMsg := m }) ⟨tNl, false, l⟩ a s') →
    ∀ f, Runs (L f acc { comments := cs, tags := ts })
      ⟨c, b, tLB :: ⟨.kDeprecated, kwDeprecated⟩ :: tLP :: tStr m :: tRP :: tRB :: tNl :: l⟩ a s'
  nl : ∀ {acc st c b l a s'}, c.kind ≠ .closeCurly →
    (∀ f, Runs (L f acc { st with comments := [] }) ⟨tNl, false, l⟩ a s') → ∀ f, Runs (L f acc st) ⟨c, b, tNl :: l⟩ a s'
  close : ∀ {acc st c b l}, c.kind ≠ .closeCurly → ∀ f, Runs (L f acc st) ⟨c, b, tClose :: l⟩ acc ⟨tClose, false, l⟩

theorem not_close_cmt (d : Str) : (tCmt d).kind ≠ .closeCurly := by intro h; cases h
theorem not_close_nl : tNl.kind ≠ .closeCurly := by intro h; cases h

/-- the `//` lines and the `[deprecated("…")]` line in front of an item of a body, after the `//` lines `cs` -/
theorem Body.pre {β} {ok : Str → Prop} {tags : List Str → List Tag} {L : Nat → List β → BodySt → P (List β)}
    (B : Body ok tags L) (ind : List Byte) {acc : List β} {a : List β} {s' : Cur} {dep : Option Str}
    (hdep : ∀ m, dep = some m → strBodyOk m = true) {r : List Lexeme} :
    ∀ (doc cs : List Str), (∀ d ∈ doc, ok d) → ∀ (c : Token) (b : Bool), c.kind ≠ .closeCurly →
    (∀ c' b', c'.kind ≠ .closeCurly → ∀ f,
      Runs (L f acc { comments := cs ++ doc, tags := tags (cs ++ doc), isDep := dep.isSome, depMsg := depMsgOf dep })
        ⟨c', b', toks r⟩ a s') →
    ∀ f, Runs (L f acc { comments := cs, tags := tags cs }) ⟨c, b, toks (docLex ind doc (depLex ind dep r))⟩ a s'
  | d :: doc, cs, hdoc, c, b, hc, h =>
    B.cmt hc (hdoc d List.mem_cons_self) (B.pre ind hdep doc (cs ++ [d]) (fun x hx => hdoc x (List.mem_cons_of_mem _ hx))
      _ false (not_close_cmt d) (by rw [List.append_assoc]; exact h))
  | [], cs, _, c, b, hc, h => by
    rw [List.append_nil] at h
    cases dep with
    | none => exact h c b hc
    | some m => exact B.dep hc (hdep m rfl) (h tNl false not_close_nl)

/-! ### struct bodies -/

theorem noteLineComment_runs (cs : List Str) {d : Str} (h : bodyDocOk d) (s : Cur) :
    Runs (noteLineComment { comments := cs, tags := tagsOf cs } (tCmt d)) s
      { comments := cs ++ [d], tags := tagsOf (cs ++ [d]) } s := by
  obtain ⟨r, hr⟩ := Option.isSome_iff_exists.1 h.2
  simp only [noteLineComment, lineCommentText_cmt h.1, parseCommentTag, hr]
  refine (Runs.pure _ _).bind ?_
  cases r <;> simpa [tagsOf, hr] using Runs.pure _ s

theorem structBody (fuel : Nat) : Body bodyDocOk tagsOf (readStruct.loop fuel) where
  cmt hc hd h := round_runs (readStruct.loop.eq_def fuel) hc fun f => (noteLineComment_runs _ hd _).bind (h f)
  dep hc hm h := round_runs (readStruct.loop.eq_def fuel) hc fun f => (deprecated_runs hm _ _ _).bind (h f)
  nl hc h := round_runs (readStruct.loop.eq_def fuel) hc h
  close hc := round_runs (readStruct.loop.eq_def fuel) hc (BodyLoop.atClose (readStruct.loop.eq_def fuel))

/-- one field line (after its doc and attribute lines) -/
theorem field_runs (fuel : Nat) (acc : List Field) (st : BodySt) (ind : List Byte) {ty : CType} (hty : CTypeOk ty)
    (name : Str) (trail : Option Str) (r : List Lexeme) (c : Token) (b : Bool)
    (hc : c.kind ≠ .closeCurly) {a : List Field} {s' : Cur}
    (h : ∀ c' b', c'.kind ≠ .closeCurly → ∀ f,
      Runs (readStruct.loop fuel f (acc ++ [{ ft := ftOf ty, name := name, comment := joinLines st.comments,
                                              tags := st.tags, depMsg := st.depMsg, deprecated := st.isDep }]) {})
        ⟨c', b', toks r⟩ a s') :
    ∀ f, Runs (readStruct.loop fuel f acc st)
      ⟨c, b, toks (typeLex ty ind (⟨[32], tId name⟩ :: ⟨[], tSemi⟩ :: trailLex trail r))⟩ a s' := by
  obtain ⟨tk, r', hhead, hk⟩ := typeLex_first ty ind (⟨[32], tId name⟩ :: ⟨[], tSemi⟩ :: trailLex trail r)
  have e := congrArg toks hhead
  rw [e]
  refine round_runs (readStruct.loop.eq_def fuel) hc fun f => ?_
  cases ty <;> simp only [hk, firstKind] <;>
  · refine (Runs.unNext _ _).bind ?_
    rw [show tk :: toks r' = _ from e.symm]
    refine (type_runs _ hty ind ⟨[32], tId name⟩ _ (by intro h; cases h) fuel _ _).bind ?_
    refine (expectSeq_runs [tId name, tSemi] _ _ _).bind ?_
    cases trail with
    | some d => exact (skipEol_cmt _ _ d _ fuel).bind (h _ _ (not_close_cmt d) f)
    | none => exact (skipEol_nl _ _ _ fuel).bind ((structBody fuel).nl not_close_nl (h _ _ not_close_nl) f)

theorem fields_runs (fuel : Nat) (ind : List Byte) : ∀ (fs : List CField) (acc : List Field) (c : Token)
    (b : Bool) (r : List Lexeme), (∀ g ∈ fs, CFieldOk g) → c.kind ≠ .closeCurly → ∀ f,
    Runs (readStruct.loop fuel f acc {}) ⟨c, b, toks (fieldsLex ind fs r)⟩ (acc ++ fs.map fieldOfC)
      ⟨tClose, false, toks (⟨[], tNl⟩ :: r)⟩
  | [], acc, c, b, r, _, hc => by
    rw [List.map_nil, List.append_nil]
    exact (structBody fuel).close hc
  | g :: fs, acc, c, b, r, hok, hc => by
    obtain ⟨hdoc, _, hdep, hty, _⟩ := hok g List.mem_cons_self
    refine (structBody fuel).pre ind hdep g.doc [] hdoc c b hc fun c' b' hc' => ?_
    refine field_runs fuel acc _ ind hty g.name g.trail _ c' b' hc' fun c'' b'' hc'' => ?_
    have ih := fields_runs fuel ind fs (acc ++ [fieldOfC g]) c'' b'' r (fun x hx => hok x (List.mem_cons_of_mem _ hx)) hc''
    rwa [List.append_assoc] at ih

/-- readStruct (the `struct` keyword has been read) -/
theorem struct_runs (fuel : Nat) (ind : List Byte) (name : Str) (fs : List CField) (hok : ∀ g ∈ fs, CFieldOk g)
    (r : List Lexeme) (c : Token) (b : Bool) :
    Runs (readStruct fuel) ⟨c, b, tId name :: tOpen :: tNl :: toks (fieldsLex ind fs r)⟩
      { name := name, fields := fs.map fieldOfC } ⟨tClose, false, toks (⟨[], tNl⟩ :: r)⟩ := by
  refine (expectSeq_runs [tId name, tOpen] _ _ _).bind ?_
  refine (optNewline_nl _ _ _).bind ?_
  exact (fields_runs fuel ind fs [] _ _ r hok not_close_nl fuel).bind (Runs.pure _ _)

/-! ### message bodies -/

theorem messageBody (fuel : Nat) : Body bodyDocOk tagsOf (readMessage.loop fuel) where
  cmt hc hd h := msgRound_runs (readMessage.loop.eq_def fuel) hc rfl fun f => (noteLineComment_runs _ hd _).bind (h f)
  dep hc hm h := msgRound_runs (readMessage.loop.eq_def fuel) hc rfl fun f => (deprecated_runs hm _ _ _).bind (h f)
  nl hc h := msgRound_runs (readMessage.loop.eq_def fuel) hc rfl h
  close hc := msgRound_runs (readMessage.loop.eq_def fuel) hc rfl (BodyLoop.atClose (readMessage.loop.eq_def fuel))

/-- one message field line (after its doc and attribute lines) -/
theorem msgField_runs (fuel : Nat) (acc : List (Nat × Field)) (st : BodySt) (ind : List Byte) (idx : Str) {n : Nat}
    (hidx : parseUint idx false 8 = some n) (hn0 : n ≠ 0) (hfresh : acc.any (·.1 == n) = false)
    {ty : CType} (hty : CTypeOk ty) (name : Str) (trail : Option Str)
    (r : List Lexeme) (c : Token) (b : Bool) (hc : c.kind ≠ .closeCurly) {a : List (Nat × Field)} {s' : Cur}
    (h : ∀ c' b', c'.kind ≠ .closeCurly → ∀ f,
      Runs (readMessage.loop fuel f (acc ++ [(n, { ft := ftOf ty, name := name, comment := joinLines st.comments,
                                                    tags := st.tags, depMsg := st.depMsg, deprecated := st.isDep })]) {})
        ⟨c', b', toks r⟩ a s') :
    ∀ f, Runs (readMessage.loop fuel f acc st)
      ⟨c, b, toks (⟨ind, tNum idx⟩ :: ⟨[32], tArrow⟩ ::
        typeLex ty [32] (⟨[32], tId name⟩ :: ⟨[], tSemi⟩ :: trailLex trail r))⟩ a s' := by
  refine msgRound_runs (readMessage.loop.eq_def fuel) hc rfl fun f => ?_
  simp only [hidx, beq_eq_false_iff_ne.2 hn0, hfresh, Bool.false_eq_true, if_false]
  refine (expectSeq_runs [tArrow] _ _ _).bind ?_
  refine (type_runs ty hty [32] ⟨[32], tId name⟩ _ (by intro h; cases h) fuel _ _).bind ?_
  refine (expectSeq_runs [tId name, tSemi] _ _ _).bind ?_
  cases trail with
  | some d => exact (skipEol_cmt _ _ d _ fuel).bind (h _ _ (not_close_cmt d) f)
  | none => exact (skipEol_nl _ _ _ fuel).bind ((messageBody fuel).nl not_close_nl (h _ _ not_close_nl) f)

/-- an index not yet in `acc`, and the indices that follow stay fresh once it is -/
theorem fresh_step {β ι} {idx : ι → Nat} {i : ι} {is : List ι} {acc : List (Nat × β)}
    (hfresh : ∀ j ∈ i :: is, ∀ x ∈ acc, x.1 ≠ idx j) (hnd : ((i :: is).map idx).Nodup) (v : β) :
    acc.any (·.1 == idx i) = false ∧ (∀ j ∈ is, ∀ x ∈ acc ++ [(idx i, v)], x.1 ≠ idx j) ∧ (is.map idx).Nodup := by
  simp only [List.map_cons, List.nodup_cons] at hnd
  refine ⟨?_, fun j hj x hx => ?_, hnd.2⟩
  · rw [List.any_eq_false]; intro x hx; simpa using hfresh i List.mem_cons_self x hx
  · rcases List.mem_append.1 hx with hx | hx
    · exact hfresh j (List.mem_cons_of_mem _ hj) x hx
    · rw [List.mem_singleton.1 hx]
      exact fun heq => hnd.1 (List.mem_map.2 ⟨j, hj, heq.symm⟩)

theorem msgFields_runs (fuel : Nat) (ind : List Byte) : ∀ (gs : List CMsgField) (acc : List (Nat × Field))
    (c : Token) (b : Bool) (r : List Lexeme), (∀ g ∈ gs, CMsgFieldOk g) → (∀ g ∈ gs, ∀ x ∈ acc, x.1 ≠ idxVal g.idx) →
    (gs.map (fun g => idxVal g.idx)).Nodup → c.kind ≠ .closeCurly → ∀ f,
    Runs (readMessage.loop fuel f acc {}) ⟨c, b, toks (msgFieldsLex ind gs r)⟩ (acc ++ gs.map msgFieldOf)
      ⟨tClose, false, toks (⟨[], tNl⟩ :: r)⟩
  | [], acc, c, b, r, _, _, _, hc => by
    rw [List.map_nil, List.append_nil]
    exact (messageBody fuel).close hc
  | g :: gs, acc, c, b, r, hok, hfresh, hnd, hc => by
    obtain ⟨_, hdoc, hdep, _, ⟨n, hn, hn0⟩, hty, _⟩ := hok g List.mem_cons_self
    obtain rfl : n = idxVal g.idx := by rw [idxVal, hn]; rfl
    obtain ⟨hany, hfresh', hnd'⟩ := fresh_step hfresh hnd (msgFieldOf g).2
    refine (messageBody fuel).pre ind hdep g.doc [] hdoc c b hc fun c' b' hc' => ?_
    refine msgField_runs fuel acc _ ind g.idx hn hn0 hany hty g.name g.trail _ c' b' hc' fun c'' b'' hc'' => ?_
    have ih := msgFields_runs fuel ind gs (acc ++ [msgFieldOf g]) c'' b'' r
      (fun x hx => hok x (List.mem_cons_of_mem _ hx)) hfresh' hnd' hc''
    rwa [List.append_assoc] at ih

/-- readMessage (the `message` keyword has been read) -/
theorem message_runs (fuel : Nat) (ind : List Byte) (name : Str) (gs : List CMsgField) (hok : ∀ g ∈ gs, CMsgFieldOk g)
    (hnd : (gs.map (fun g => idxVal g.idx)).Nodup) (r : List Lexeme) (c : Token) (b : Bool) :
    Runs (readMessage fuel) ⟨c, b, tId name :: tOpen :: tNl :: toks (msgFieldsLex ind gs r)⟩
      { name := name, fields := gs.map msgFieldOf } ⟨tClose, false, toks (⟨[], tNl⟩ :: r)⟩ := by
  refine (expectSeq_runs [tId name, tOpen] _ _ _).bind ?_
  refine (optNewline_nl _ _ _).bind ?_
  exact (msgFields_runs fuel ind gs [] _ _ r hok (fun _ _ x hx => by cases hx) hnd not_close_nl fuel).bind (Runs.pure _ _)

/-! ### opcodes -/

/-- `opcode(…)]` and the line break (the `[` has been read and `opcode` un-read) -/
theorem opCode_runs {o : OpLit} (ho : OpLitOk o) (c : Token) (b : Bool) (l : List Token) :
    Runs readOpCode ⟨c, b, ⟨.kOpCode, kwOpcode⟩ :: tLP :: opLitTok o :: tRP :: tRB :: tNl :: l⟩ (opVal (some o))
      ⟨tNl, false, l⟩ := by
  refine (expectSeq_runs [⟨.kOpCode, kwOpcode⟩, tLP] _ _ _).bind ?_
  refine (expectAnyOf_runs (x := opLitTok o) (by cases o <;> rfl) _ _ _).bind ?_
  refine (Runs.tok _).bind ?_
  refine Runs.bind (a := opVal (some o)) (s₁ := ⟨opLitTok o, false, tRP :: tRB :: tNl :: l⟩) ?_
    ((expectSeq_runs [tRP, tRB] _ _ _).bind ((optNewline_nl _ _ _).bind (Runs.pure _ _)))
  cases o with
  | num lit =>
    obtain ⟨n, hn⟩ := Option.isSome_iff_exists.1 ho.2
    simp only [opLitTok, beq_self_eq_true, if_true, hn, opVal, Option.getD_some]
    exact Runs.pure _ _
  | str s =>
    have hne : (TK.strLit == TK.intLit) = false := by decide
    simp only [opLitTok, hne, Bool.false_eq_true, if_false, trimQuotes_str ho.1, ho.2, bne_self_eq_false, opVal]
    exact Runs.pure _ _

/-! ### enums -/

/-- readUntil(semicolon) over tokens that are not semicolons -/
theorem readUntilSemi_runs (l : List Token) : ∀ (ts : List Token), (∀ tk ∈ ts, (tk.kind == TK.semicolon) = false) →
    ∀ (acc : List Token) (c : Token) (b : Bool) (f : Nat),
    Runs (readUntilSemi f acc) ⟨c, b, ts ++ tSemi :: l⟩ (acc.reverse ++ ts) ⟨tSemi, false, l⟩
  | _, _, _, _, _, 0 => Runs.fuel _ _ _
  | [], _, acc, c, b, f + 1 => by
    rw [readUntilSemi, List.append_nil]
    exact (Runs.next_cons _ _ _ _).bind ((Runs.tok _).bind (Runs.pure _ _))
  | tk :: ts, hts, acc, c, b, f + 1 => by
    rw [readUntilSemi]
    refine (Runs.next_cons _ _ tk _).bind ?_
    refine (Runs.tok _).bind (Runs.if_false (hts tk List.mem_cons_self) ?_)
    have := readUntilSemi_runs l ts (fun x hx => hts x (List.mem_cons_of_mem _ hx)) (tk :: acc) tk false f
    simpa using this

/-- the value of an enum member, as `readEnumOptionValue` computes it -/
theorem enumValue_runs (fuel bits : Nat) (uns fl : Bool) (prev : List EnumOption) (ts : List Token)
    (hts : ∀ tk ∈ ts, (tk.kind == TK.semicolon) = false) (sv : Int) (uv : Nat)
    (hv : enumVal fl bits uns prev ts = some (sv, uv)) (c : Token) (b : Bool) (l : List Token) :
    Runs (readEnumOptionValue fuel prev fl uns bits) ⟨c, b, tEq :: (ts ++ tSemi :: l)⟩ (sv, uv) ⟨tSemi, false, l⟩ := by
  refine (expectSeq_runs [tEq] _ _ _).bind ?_
  cases fl with
  | false =>
    -- an ordinary enum: exactly one literal
    simp only [enumVal, Bool.false_eq_true, if_false] at hv
    rcases ts with _ | ⟨tk, _ | _⟩
    · cases hv
    · cases hk : tk.kind == TK.intLit with
      | false => simp [hk] at hv
      | true =>
        have hseq := expectSeq_runs [tk, tSemi] tEq false l
        rw [List.map_cons, eq_of_beq hk] at hseq
        refine hseq.bind ?_
        cases uns <;> simp only [hk, if_true, Bool.false_eq_true, if_false] at hv <;>
        · obtain ⟨n, hn, heq⟩ := Option.map_eq_some_iff.1 hv
          cases heq
          simp only [if_true, Bool.false_eq_true, if_false, hn]
          exact Runs.pure _ _
    · cases hv
  | true =>
    refine (readUntilSemi_runs l ts hts [] _ _ fuel).bind ?_
    rw [List.reverse_nil, List.nil_append]
    simp only [enumVal, if_true] at hv
    cases hp : parseExpr (ts.length + 1) ts with
    | none => simp [hp] at hv
    | some e =>
      cases he : evalExpr bits uns prev e with
      | none => simp [hp, he] at hv
      | some v =>
        simp only [hp, he, Option.some.injEq] at hv
        simp only [he]
        cases uns <;> exact hv ▸ Runs.pure _ _
theorem enumBody (fuel : Nat) (fl : Bool) (bits : Nat) (uns : Bool) :
    Body (fun d => docLineOk d = true) (fun _ => []) (readEnum.loop fuel fl bits uns) where
  cmt hc hd h := round_runs (readEnum.loop.eq_def fuel fl bits uns) hc fun f => by
    simp only [lineCommentText_cmt hd]
    exact h f
  dep hc hm h := round_runs (readEnum.loop.eq_def fuel fl bits uns) hc fun f => (deprecated_runs hm _ _ _).bind (h f)
  nl hc h := round_runs (readEnum.loop.eq_def fuel fl bits uns) hc h
  close hc := round_runs (readEnum.loop.eq_def fuel fl bits uns) hc (BodyLoop.atClose (readEnum.loop.eq_def fuel fl bits uns))

/-- one member line (after its doc and attribute lines) and its line break -/
theorem enumOpt_runs (fuel bits : Nat) (uns fl : Bool) (acc : List EnumOption) (st : BodySt) (o : CEnumOpt)
    (ho : CEnumOptOk fl bits uns acc o) (r : List Lexeme) (c : Token) (b : Bool)
    (hc : c.kind ≠ .closeCurly) {a : List EnumOption} {s' : Cur}
    (h : ∀ f, Runs (readEnum.loop fuel fl bits uns f
          (acc ++ [{ name := o.name, comment := joinLines st.comments, depMsg := st.depMsg,
                     value := ((enumVal fl bits uns acc (o.val.map ETok.tok)).getD (0, 0)).1,
                     uvalue := ((enumVal fl bits uns acc (o.val.map ETok.tok)).getD (0, 0)).2,
                     deprecated := st.isDep }]) {}) ⟨tNl, false, toks r⟩ a s') :
    ∀ f, Runs (readEnum.loop fuel fl bits uns f acc st)
      ⟨c, b, toks (⟨[9], tId o.name⟩ :: spLex .ident (tEq :: o.val.map ETok.tok) (⟨[], tSemi⟩ :: ⟨[], tNl⟩ :: r))⟩ a s' := by
  obtain ⟨⟨sv, uv⟩, hv⟩ := Option.isSome_iff_exists.1 ho.2.2.2.2
  rw [hv] at h
  rw [show toks (⟨[9], tId o.name⟩ :: spLex .ident (tEq :: o.val.map ETok.tok) (⟨[], tSemi⟩ :: ⟨[], tNl⟩ :: r)) =
    tId o.name :: tEq :: (o.val.map ETok.tok ++ tSemi :: tNl :: toks r) by simp [toks_spLex]]
  refine round_runs (readEnum.loop.eq_def fuel fl bits uns) hc fun f => ?_
  refine (enumValue_runs fuel bits uns fl acc (o.val.map ETok.tok)
    (by intro tk htk; obtain ⟨e, _, rfl⟩ := List.mem_map.1 htk; exact etok_not_semi e) sv uv hv _ _ _).bind ?_
  exact (enumBody fuel fl bits uns).nl (by intro h; cases h) h f

theorem enumOpts_runs (fuel bits : Nat) (uns fl : Bool) : ∀ (os : List CEnumOpt) (acc : List EnumOption)
    (c : Token) (b : Bool) (r : List Lexeme), CEnumOptsOk fl bits uns acc os → c.kind ≠ .closeCurly → ∀ f,
    Runs (readEnum.loop fuel fl bits uns f acc {}) ⟨c, b, toks (enumOptsLex os r)⟩ (enumOptsOf fl bits uns acc os)
      ⟨tClose, false, toks (⟨[], tNl⟩ :: r)⟩
  | [], acc, c, b, r, _, hc => (enumBody fuel fl bits uns).close hc
  | o :: os, acc, c, b, r, hok, hc => by
    obtain ⟨ho, hos⟩ := hok
    refine (enumBody fuel fl bits uns).pre [9] ho.2.1 o.doc [] ho.1 c b hc fun c' b' hc' => ?_
    refine enumOpt_runs fuel bits uns fl acc _ o ho _ c' b' hc' ?_
    exact enumOpts_runs fuel bits uns fl os _ tNl false r hos not_close_nl

/-- readEnum (the `enum` keyword has been read) -/
theorem enum_runs (fuel : Nat) (fl : Bool) (name : Str) (base : Option Str) (os : List CEnumOpt)
    (hb : ∀ b, base = some b → IdentOk b = true ∧ (isUintName b || isIntName b) = true ∧ (decodeInteger b).isSome = true)
    (hok : CEnumOptsOk fl (enumBits base).1 (enumBits base).2 [] os)
    (r : List Lexeme) (c : Token) (b : Bool) :
    Runs (readEnum fuel fl) ⟨c, b, toks (⟨[32], tId name⟩ :: baseLex base (⟨[32], tOpen⟩ :: ⟨[], tNl⟩ :: enumOptsLex os r))⟩
      { name := name, options := enumOptsOf fl (enumBits base).1 (enumBits base).2 [] os,
        simpleType := enumBase base, unsigned := (enumBits base).2 } ⟨tClose, false, toks (⟨[], tNl⟩ :: r)⟩ := by
  obtain ⟨hname, hdec⟩ := enumBase_facts base hb
  have hloop := enumOpts_runs fuel (enumBits base).1 (enumBits base).2 fl os [] tNl false r hok not_close_nl fuel
  refine (expectSeq_runs [tId name] _ _ _).bind ?_
  cases base with
  | none =>
    refine (expectAnyOf_runs (x := tOpen) rfl _ _ _).bind ?_
    refine (Runs.tok _).bind ?_
    refine (Runs.pure _ _).bind ?_
    refine (optNewline_nl _ _ _).bind ?_
    simp only [strOf_uint32, show decodeInteger kwUint32 = some (enumBits none) from hdec]
    exact hloop.bind (Runs.pure _ _)
  | some bt =>
    refine (expectAnyOf_runs (x := tColon) rfl _ _ _).bind ?_
    refine (Runs.tok _).bind ?_
    refine Runs.bind (a := bt) (s₁ := ⟨tOpen, false, tNl :: toks (enumOptsLex os r)⟩)
      ((expectSeq_runs [tId bt, tOpen] _ _ _).bind ?_) ?_
    · exact Runs.if_false ((Bool.not_or ..).symm.trans (congrArg not hname)) (Runs.pure _ _)
    refine (optNewline_nl _ _ _).bind ?_
    simp only [show decodeInteger bt = some (enumBits (some bt)) from hdec]
    exact hloop.bind (Runs.pure _ _)

/-! ### unions -/

theorem unionBody (fuel : Nat) : Body bodyDocOk tagsOf (readUnion.loop fuel) where
  cmt hc hd h := round_runs (readUnion.loop.eq_def fuel) hc fun f => (noteLineComment_runs _ hd _).bind (h f)
  dep hc hm h := round_runs (readUnion.loop.eq_def fuel) hc fun f => (deprecated_runs hm _ _ _).bind (h f)
  nl hc h := round_runs (readUnion.loop.eq_def fuel) hc h
  close hc := round_runs (readUnion.loop.eq_def fuel) hc (BodyLoop.atClose (readUnion.loop.eq_def fuel))

/-- a member `idx -> struct Name { … }` / `idx -> message Name { … }` (after its doc and attribute lines) and the
    line break after its `}` -/
theorem member_runs (fuel : Nat) (acc : List (Nat × UnionField)) (m : CUMember) (hm : CUMemberOk m)
    (hfresh : acc.any (·.1 == idxVal m.idx) = false) (r : List Lexeme) (c : Token) (b : Bool)
    (hc : c.kind ≠ .closeCurly) {a : List (Nat × UnionField)} {s' : Cur}
    (h : ∀ f, Runs (readUnion.loop fuel f (acc ++ [memberOf m]) {}) ⟨tNl, false, toks r⟩ a s') :
    ∀ f, Runs (readUnion.loop fuel f acc
        { comments := m.doc, tags := tagsOf m.doc, isDep := m.dep.isSome, depMsg := depMsgOf m.dep })
      ⟨c, b, toks (memberBodyLex m r)⟩ a s' := by
  refine round_runs (readUnion.loop.eq_def fuel) hc fun f => ?_
  have tail : ∀ {k : P (List (Nat × UnionField))}, Runs k ⟨tNl, false, toks r⟩ a s' →
      Runs (do (fun t => PR.ok () { t with keep := false } : P Unit)
               let more ← pNext
               if !more then fail else do
               pUnNext
               skipEolComments fuel
               optNewline
               k) ⟨tClose, false, toks (⟨[], tNl⟩ :: r)⟩ a s' := fun hk =>
    (Runs.dropKeep _ _).bind ((Runs.next_cons _ _ _ _).bind ((Runs.unNext _ _).bind
      ((skipEol_nl _ _ _ fuel).bind ((optNewline_nl _ _ _).bind hk))))
  have hn : parseUint m.idx false 8 = some (idxVal m.idx) := parseUint_idx (by cases m <;> exact hm.2.2.2.1)
  simp only [hn, hfresh, Bool.false_eq_true, if_false]
  refine (expectSeq_runs [tArrow] _ _ _).bind ?_
  cases m with
  | struct doc dep idx name fs =>
    refine (expectAnyOf_runs (x := ⟨.kStruct, kwStruct⟩) rfl _ _ _).bind ((Runs.tok _).bind ?_)
    exact Runs.bind ((struct_runs fuel [9, 9] name fs hm.2.2.2.2.2 r _ _).bind (Runs.pure _ _)) (tail (h f))
  | message doc dep idx name gs =>
    refine (expectAnyOf_runs (x := ⟨.kMessage, kwMessage⟩) rfl _ _ _).bind ((Runs.tok _).bind ?_)
    exact Runs.bind ((message_runs fuel [9, 9] name gs hm.2.2.2.2.2.1 hm.2.2.2.2.2.2 r _ _).bind (Runs.pure _ _))
      (tail (h f))

theorem members_runs (fuel : Nat) : ∀ (ms : List CUMember) (acc : List (Nat × UnionField)) (c : Token)
    (b : Bool) (r : List Lexeme), (∀ m ∈ ms, CUMemberOk m) → (∀ m ∈ ms, ∀ x ∈ acc, x.1 ≠ idxVal m.idx) →
    (ms.map (fun m => idxVal m.idx)).Nodup → c.kind ≠ .closeCurly → ∀ f,
    Runs (readUnion.loop fuel f acc {}) ⟨c, b, toks (membersLex ms r)⟩ (acc ++ ms.map memberOf)
      ⟨tClose, false, toks (⟨[], tNl⟩ :: r)⟩
  | [], acc, c, b, r, _, _, _, hc => by
    rw [List.map_nil, List.append_nil]
    exact (unionBody fuel).close hc
  | m :: ms, acc, c, b, r, hok, hfresh, hnd, hc => by
    have hm := hok m List.mem_cons_self
    obtain ⟨hany, hfresh', hnd'⟩ := fresh_step hfresh hnd (memberOf m).2
    have hdocOk : (∀ c ∈ m.doc, bodyDocOk c) ∧ ∀ d, m.dep = some d → strBodyOk d = true := by
      cases m <;> exact ⟨hm.1, hm.2.1⟩
    rw [membersLex, memberLex_eq]
    refine (unionBody fuel).pre [9] hdocOk.2 m.doc [] hdocOk.1 c b hc fun c' b' hc' => ?_
    refine member_runs fuel acc m hm hany _ c' b' hc' ?_
    have ih := members_runs fuel ms (acc ++ [memberOf m]) tNl false r
      (fun x hx => hok x (List.mem_cons_of_mem _ hx)) hfresh' hnd' not_close_nl
    rwa [List.append_assoc] at ih

/-- readUnion (the `union` keyword has been read) -/
theorem union_runs (fuel : Nat) (name : Str) (ms : List CUMember) (hok : ∀ m ∈ ms, CUMemberOk m)
    (hnd : (ms.map (fun m => idxVal m.idx)).Nodup) (r : List Lexeme) (c : Token) (b : Bool) :
    Runs (readUnion fuel) ⟨c, b, tId name :: tOpen :: tNl :: toks (membersLex ms r)⟩
      { name := name, fields := ms.map memberOf } ⟨tClose, false, toks (⟨[], tNl⟩ :: r)⟩ := by
  refine (expectSeq_runs [tId name, tOpen] _ _ _).bind ?_
  refine (optNewline_nl _ _ _).bind ?_
  exact (members_runs fuel ms [] _ _ r hok (fun _ _ x hx => by cases hx) hnd not_close_nl fuel).bind (Runs.pure _ _)

/-! ### constants and imports -/

/-- readConst (the `const` keyword has been read); `hend`: how it ends, at a line break or at the end of the input -/
theorem const_runs (fuel : Nat) (name : Str) {v : CConstV} (hv : CConstVOk v) (c : Token) (b : Bool)
    {l : List Token} {s' : Cur}
    (hend : ∀ K : Const, Runs (do skipEolComments fuel; optNewline; pure K) ⟨tSemi, false, l⟩ K s') :
    Runs (readConst fuel) ⟨c, b, tId (constTy v) :: tId name :: tEq :: constValTok v :: tSemi :: l⟩
      { simpleType := constTy v, name := name, value := constVal v } s' := by
  refine (expectSeq_runs [tId (constTy v), tId name, tEq] _ _ _).bind ?_
  refine (Runs.next_cons _ _ (constValTok v) _).bind ?_
  refine (Runs.tok _).bind ?_
  refine Runs.bind (a := constVal v) (s₁ := ⟨constValTok v, false, tSemi :: l⟩) ?_
    ((expectSeq_runs [tSemi] _ _ _).bind (hend _))
  -- the value, from the type name and the value token
  cases v with
  | int ty lit =>
    rcases Bool.eq_false_or_eq_true (isUintName ty || isIntName ty) with h1 | h1
    · exact Runs.if_true h1 (Runs.pure _ _)
    · have h2 : isFloatName ty = true := by simpa [h1] using hv.2.2
      exact Runs.if_false h1 (Runs.if_true h2 (Runs.pure _ _))
  | bool bv =>
    refine Runs.if_false (not_number (.inl rfl)).1 (Runs.if_false (not_number (.inl rfl)).2 ?_)
    refine Runs.if_false ((strEq_guid _).trans rfl) (Runs.if_false ((strEq_string _).trans rfl) ?_)
    refine Runs.if_true ((strEq_bool _).trans rfl) ?_
    cases bv <;> exact Runs.pure _ _
  | str body =>
    refine Runs.if_false (not_number (.inr (.inl rfl))).1 (Runs.if_false (not_number (.inr (.inl rfl))).2 ?_)
    refine Runs.if_false ((strEq_guid _).trans rfl) (Runs.if_true ((strEq_string _).trans rfl) ?_)
    exact Runs.if_false rfl (Runs.if_false (congrArg not (goStringLitOk_str hv)) (Runs.pure _ _))
  | float ty neg ip fp => exact Runs.if_false hv.2.1 (Runs.if_true hv.2.2.1 (Runs.pure _ _))
  | inf ty => exact Runs.if_false hv.2.1 (Runs.if_true hv.2.2 (Runs.pure _ _))
  | negInf ty => exact Runs.if_false hv.2.1 (Runs.if_true hv.2.2 (Runs.pure _ _))
  | nan ty => exact Runs.if_false hv.2.1 (Runs.if_true hv.2.2 (Runs.pure _ _))
  | guid body =>
    have h : ((trimQuotes (tStr body).concrete).filter (· != 0x2d)).length = 32 := by
      rw [trimQuotes_str hv.1]; exact hv.2
    refine Runs.if_false (not_number (.inr (.inr rfl))).1 (Runs.if_false (not_number (.inr (.inr rfl))).2 ?_)
    refine Runs.if_true ((strEq_guid _).trans rfl) ?_
    exact Runs.if_false rfl (Runs.if_false (bne_eq_false_iff_eq.2 h) (Runs.pure _ _))

/-! ### the top-level loop -/

/-- the loop state of ReadFile between two definitions, with nothing pending -/
abbrev topSt (F : File) : TopSt := { file := F }

/-- the loop state after the `// doc` lines `cs` -/
abbrev docSt (F : File) (cs : List Str) : TopSt := { file := F, comments := cs }

/-- the loop state after the doc lines and an `[opcode(…)]` line -/
abbrev opSt (F : File) (cs : List Str) (code : Nat) : TopSt := { file := F, comments := cs, opCode := code }

/-- the loop state after a `[flags]` line -/
abbrev flSt (F : File) (cs : List Str) (fl : Bool) : TopSt := { file := F, comments := cs, bitFlags := fl }

/-- one iteration of ReadFile's loop -/
theorem top_step_runs {fuel : Nat} {st : TopSt} {c x : Token} {b : Bool} {l : List Token} {a : File}
    (h : ∀ f, Returns (stepTop fuel st x >>= fun st' => readFileLoop fuel f st') ⟨x, false, l⟩ a) :
    ∀ f, Returns (readFileLoop fuel f st) ⟨c, b, x :: l⟩ a :=
  Returns.step (fun f => by rw [readFileLoop]; exact (Runs.next_cons _ _ _ _).then ((Runs.tok _).then (h f))) rfl

theorem top_nl_runs {fuel : Nat} {st : TopSt} {c : Token} {b : Bool} {l : List Token} {a : File}
    (h : ∀ f, Returns (readFileLoop fuel f { st with comments := [] }) ⟨tNl, false, l⟩ a) :
    ∀ f, Returns (readFileLoop fuel f st) ⟨c, b, tNl :: l⟩ a :=
  top_step_runs fun f => (Runs.pure _ _).then (h f)

theorem top_end_runs (fuel : Nat) (st : TopSt) (c : Token) (b : Bool) : ∀ f, Returns (readFileLoop fuel f st) ⟨c, b, []⟩ st.file :=
  Returns.step (fun _ => ⟨_, by rw [readFileLoop]; exact (Runs.next_nil _ _).bind ((Runs.hasErr _).bind (Runs.pure _ _))⟩) rfl

/-- a definition with a body, and the line break after its `}` -/
theorem top_body_runs {fuel : Nat} {st st' : TopSt} {c x : Token} {b : Bool} {l l' : List Token} {a : File}
    (hstep : Runs (stepTop fuel st x) ⟨x, false, l⟩ st' ⟨tClose, false, tNl :: l'⟩)
    (h : ∀ f, Returns (readFileLoop fuel f { st' with comments := [] }) ⟨tNl, false, l'⟩ a) :
    ∀ f, Returns (readFileLoop fuel f st) ⟨c, b, x :: l⟩ a :=
  top_step_runs fun f => hstep.then (top_nl_runs h f)

/-- `// doc` lines at top level -/
theorem top_doc_runs (fuel : Nat) (F : File) {r : List Lexeme} {a : File} : ∀ (cs cs0 : List Str) (c : Token) (b : Bool),
    (∀ d ∈ cs, docLineOk d = true) →
    (∀ c' b' f, Returns (readFileLoop fuel f (docSt F (cs0 ++ cs))) ⟨c', b', toks r⟩ a) →
    ∀ f, Returns (readFileLoop fuel f (docSt F cs0)) ⟨c, b, toks (docLex [] cs r)⟩ a
  | [], cs0, c, b, _, h => by rw [List.append_nil] at h; exact h c b
  | d :: cs, cs0, c, b, hd, h => by
    refine top_step_runs fun f => (Runs.pure _ _).then ?_
    rw [lineCommentText_cmt (hd d List.mem_cons_self)]
    exact top_doc_runs fuel F cs (cs0 ++ [d]) _ _ (fun x hx => hd x (List.mem_cons_of_mem _ hx))
      (by rw [List.append_assoc]; exact h) f

/-- the `[opcode(…)]` line, if any -/
theorem top_op_runs {fuel : Nat} {F : File} {cs : List Str} (op : Option OpLit) (hop : ∀ o, op = some o → OpLitOk o)
    {r : List Lexeme} {a : File}
    (h : ∀ c b f, Returns (readFileLoop fuel f (opSt F cs (opVal op))) ⟨c, b, toks r⟩ a) (c : Token) (b : Bool) :
    ∀ f, Returns (readFileLoop fuel f (docSt F cs)) ⟨c, b, toks (opLex op r)⟩ a := by
  cases op with
  | none => exact h c b
  | some o =>
    refine top_step_runs fun f => Runs.then ?_ (h tNl false f)
    refine (expectAnyOf_runs (x := ⟨.kOpCode, kwOpcode⟩) rfl _ _ _).bind ?_
    refine (Runs.tok _).bind ?_
    refine (Runs.unNext _ _).bind ?_
    exact (opCode_runs (hop o rfl) _ _ _).bind (Runs.pure _ _)

/-- the `[flags]` line, if any -/
theorem top_flags_runs {fuel : Nat} {F : File} {cs : List Str} (fl : Bool) {r : List Lexeme} {a : File}
    (h : ∀ c b f, Returns (readFileLoop fuel f (flSt F cs fl)) ⟨c, b, toks r⟩ a) (c : Token) (b : Bool) :
    ∀ f, Returns (readFileLoop fuel f (docSt F cs)) ⟨c, b, toks (flagsLex fl r)⟩ a := by
  cases fl with
  | false => exact h c b
  | true =>
    refine top_step_runs fun f => Runs.then ?_ (h tNl false f)
    refine (expectAnyOf_runs (x := ⟨.kFlags, kwFlags⟩) rfl _ _ _).bind ?_
    refine (Runs.tok _).bind ?_
    refine (expectAnyOf_runs (x := tRB) rfl _ _ _).bind ?_
    exact (optNewline_nl _ _ _).bind (Runs.pure _ _)

/-- a definition (after its doc lines).  The continuation `h` is asked for every `nl'`: a definition with a body and an
    import read the line break that ends them and leave the separator in front of the next definition to the loop,
    whereas `readConst`, which ends at `;`, takes that separator as its own line break (`optNewline`). -/
theorem def_runs (fuel : Nat) (F : File) (cs : List Str) (d : CDef) (ds : CFile) (hd : CDefOk d)
    (hnext : d.isConst = true → ∀ d' ds', ds = d' :: ds' → d'.doc = [])
    (himp : d.isImport = true → cs = []) (c : Token) (b : Bool) {a : File}
    (h : ∀ c' b' nl' f, Returns (readFileLoop fuel f (topSt (addDefC F cs d))) ⟨c', b', toks (fileLex nl' ds)⟩ a) :
    ∀ f, Returns (readFileLoop fuel f (docSt F cs)) ⟨c, b, toks (defLex d (fileLex (nlAfter d) ds))⟩ a := by
  cases d with
  | struct op ro name fs =>
    obtain ⟨h1, h2, h3⟩ := hd
    refine top_op_runs op h1 (fun c b => ?_) c b
    cases ro with
    | false => exact top_body_runs ((struct_runs fuel [9] name fs h3 _ _ _).bind (Runs.pure _ _)) (h _ _ true)
    | true =>
      refine top_body_runs (st' := topSt (addDefC F cs (.struct op true name fs))) (l := ⟨.kStruct, kwStruct⟩ :: _) ?_
        (h _ _ true)
      refine (Runs.next_cons _ _ _ _).bind ?_
      refine (Runs.tok _).bind ?_
      exact (struct_runs fuel [9] name fs h3 _ _ _).bind (Runs.pure _ _)
  | message op name gs =>
    obtain ⟨h1, h2, h3, h4⟩ := hd
    refine top_op_runs op h1 (fun c b => ?_) c b
    exact top_body_runs ((message_runs fuel [9] name gs h3 h4 _ _ _).bind (Runs.pure _ _)) (h _ _ true)
  | union op name ms =>
    obtain ⟨h1, h2, h3, h4⟩ := hd
    refine top_op_runs op h1 (fun c b => ?_) c b
    exact top_body_runs ((union_runs fuel name ms h3 h4 _ _ _).bind (Runs.pure _ _)) (h _ _ true)
  | enum fl name base os =>
    obtain ⟨h1, h2, h3⟩ := hd
    refine top_flags_runs fl (fun c b => ?_) c b
    exact top_body_runs ((enum_runs fuel fl name base os h2 h3 _ _ _).bind (Runs.pure _ _)) (h _ _ true)
  | import_ path =>
    obtain rfl := himp rfl
    refine top_step_runs fun f => Runs.then (a := topSt (addDefC F [] (.import_ path))) (s₁ := ⟨tStr path, false, tNl :: _⟩) ?_
      (top_nl_runs (h _ _ false) f)
    refine (expectSeq_runs [tStr path] _ _ _).bind ?_
    simp only [List.headD_cons, unquote, plainQuoted_str hd]
    exact (Runs.pure _ _).bind (Runs.pure _ _)
  | const name v =>
    obtain ⟨h1, h2⟩ := hd
    -- the `const` iteration itself, given how `readConst` ends
    have hiter : ∀ {l : List Token} {s₁ : Cur},
        (∀ K : Const, Runs (do skipEolComments fuel; optNewline; pure K) ⟨tSemi, false, l⟩ K s₁) →
        (∀ f, Returns (readFileLoop fuel f (topSt (addDefC F cs (.const name v)))) s₁ a) →
        ∀ f, Returns (readFileLoop fuel f (docSt F cs))
          ⟨c, b, ⟨.kConst, kwConst⟩ :: tId (constTy v) :: tId name :: tEq :: constValTok v :: tSemi :: l⟩ a := by
      intro l s₁ hend hk
      refine top_step_runs fun f => Runs.then ?_ (hk f)
      refine (const_runs fuel name h2 _ _ hend).bind ?_
      refine Runs.bind (s₁ := s₁) (a := if strEq name "go_package" && strEq (constTy v) "string"
        then (plainQuoted (constVal v)).getD [] else F.goPackage) ?_ (Runs.pure _ _)
      cases hgp : (strEq name "go_package" && strEq (constTy v) "string") with
      | false => exact Runs.pure _ _
      | true =>
        obtain ⟨s, hs⟩ := const_string h2 (Bool.and_eq_true_iff.1 hgp).2
        simp only [hs, if_true, Option.getD_some]
        exact Runs.pure _ _
    cases ds with
    | nil =>
      -- the very end of the input: `optNewline` un-reads the `;`, which the loop then skips
      refine hiter (s₁ := ⟨tSemi, true, [tSemi]⟩) (fun K => ?_) (top_step_runs fun f => (Runs.pure _ _).then (h _ _ false f))
      refine Runs.bind (s₁ := ⟨tSemi, false, []⟩) (a := ()) ?_ ?_
      · exact Runs.step (fun _ => by rw [skipEolComments]; exact (Runs.next_nil _ _).bind (Runs.pure _ _)) rfl fuel
      refine Runs.bind (a := ()) (s₁ := ⟨tSemi, true, [tSemi]⟩) ?_ (Runs.pure _ _)
      exact (Runs.next_nil _ _).bind ((Runs.tok _).bind (Runs.unNext _ _))
    | cons d' ds' =>
      have hdoc := hnext rfl d' ds' rfl
      have e : fileLex true (d' :: ds') = ⟨[], tNl⟩ :: fileLex false (d' :: ds') := by simp [fileLex, hdoc]
      rw [show nlAfter (.const name v) = true from rfl, e]
      exact hiter (fun K => (skipEol_nl _ _ _ fuel).bind ((optNewline_nl _ _ _).bind (Runs.pure _ _))) (h _ _ false)

theorem file_runs (fuel : Nat) : ∀ (ds : CFile) (nl : Bool) (F : File) (c : Token) (b : Bool),
    (∀ d ∈ ds, CTopOk d) → noDocAfterConst ds → ∀ f,
    Returns (readFileLoop fuel f (topSt F)) ⟨c, b, toks (fileLex nl ds)⟩ (ds.foldl addDef F)
  | [], nl, F, c, b, _, _ => top_end_runs fuel _ c b
  | d :: ds, nl, F, c, b, hok, hnd => by
    obtain ⟨hdoc, himp, hdef⟩ := hok d List.mem_cons_self
    have hnd' : noDocAfterConst ds := by cases ds <;> first | trivial | exact hnd.2
    -- the definition with its doc lines
    have hdef' : ∀ (c : Token) (b : Bool) f, Returns (readFileLoop fuel f (topSt F))
        ⟨c, b, toks (docLex [] d.doc (defLex d.d (fileLex (nlAfter d.d) ds)))⟩ ((d :: ds).foldl addDef F) := fun c b =>
      top_doc_runs fuel F d.doc [] c b hdoc fun c' b' =>
        def_runs fuel F ([] ++ d.doc) d.d ds hdef (fun hc d' ds' e => by subst e; exact hnd.1 hc)
          (fun hi => by simp [himp hi]) c' b' fun c'' b'' nl' =>
            file_runs fuel ds nl' (addDef F d) c'' b'' (fun x hx => hok x (List.mem_cons_of_mem _ hx)) hnd'
    -- the empty line in front of it, if any
    cases hsep : (nl && d.doc.isEmpty) with
    | false => simpa [fileLex, hsep] using hdef' c b
    | true => simpa [fileLex, hsep] using top_nl_runs (c := c) (b := b) (hdef' tNl false)

/-- ReadFile returns exactly the denoted `File` on every admissible text of a well-formed schema. -/
theorem readFile_laid (f : CFile) (hf : CFileOkP f) {bs : List Byte} (hl : Laid false (fileLex false f) bs) :
    readFile bs false = .ok (denote f) := by
  obtain ⟨s', h⟩ := file_runs (2 * bs.length + 4) f false {} _ false hf.1 hf.2 (2 * bs.length + 4)
  rcases h _ _ (lex_schema f hf hl).at with e | ⟨t', e, ht'⟩
  · have hs := readFile_spec bs false
    rw [show readFile bs false = .fuel by simp only [readFile, e]] at hs
    exact hs.elim
  · simp only [readFile, e, ht'.clean.2.1, ht'.clean.2.2, Bool.false_eq_true, if_false]
    rfl

end Canon
end Bebop.Text
