import Lean.Meta.Tactic.Simp.RegisterCommand
import Lean.Meta.Tactic.Simp.BuiltinSimprocs.Core

/-- What brings two bracketings of one `++` chain to the same form: `renderC` of a concrete stretch of lexemes and
    the `foldl` of `takeToks` unfolded, every `++` nested to the right, `[] ++` dropped. -/
register_simp_attr chain

/-- The closed facts about the fixed tokens of the sub-language (`TokOk`, `Blanks`, `startsStop`, `endsSticky`),
    with the propositional clean-up they need: what `WFL` of a concrete stretch of lexemes reduces with. -/
register_simp_attr wfl
