/-
  Canon/Tables: the regenerated tables of the tokenizer and the parser (`Facts.keywordTable`, `Facts.tokenTreeAdds`,
  the lists of type names) are tables of strings, and the model functions that consult them turn words into
  strings, or names into words, at every call.  Here each of these functions is shown, for every argument, to be a
  lookup in a table of bytes that is written out below; the one step that evaluates anything compares that table
  with the regenerated one, so a change there still breaks the build here.  Facts about a single keyword, byte or
  type name are then lookups in the byte tables.
-/
import Bebop.Text.Tokenizer
import Bebop.Text.Ast

namespace Bebop.Text

def kwStruct : Str := [115, 116, 114, 117, 99, 116]
def kwUint32 : Str := [117, 105, 110, 116, 51, 50]
def kwBool : Str := [98, 111, 111, 108]
def kwString : Str := [115, 116, 114, 105, 110, 103]
def kwTrue : Str := [116, 114, 117, 101]
def kwFalse : Str := [102, 97, 108, 115, 101]
def kwGuid : Str := [103, 117, 105, 100]
def kwInf : Str := [105, 110, 102]
def kwNan : Str := [110, 97, 110]
def kwReadonly : Str := [114, 101, 97, 100, 111, 110, 108, 121]
def kwMessage : Str := [109, 101, 115, 115, 97, 103, 101]
def kwEnum : Str := [101, 110, 117, 109]
def kwDeprecated : Str := [100, 101, 112, 114, 101, 99, 97, 116, 101, 100]
def kwOpcode : Str := [111, 112, 99, 111, 100, 101]
def kwMap : Str := [109, 97, 112]
def kwArray : Str := [97, 114, 114, 97, 121]
def kwUnion : Str := [117, 110, 105, 111, 110]
def kwConst : Str := [99, 111, 110, 115, 116]
def kwImport : Str := [105, 109, 112, 111, 114, 116]
def kwFlags : Str := [102, 108, 97, 103, 115]

namespace Canon

/-! ### keywords -/

theorem byte_of_char (c : Byte) : UInt8.ofNat (Char.ofNat c.toNat).toNat = c := by
  have h : c.toNat < 256 := c.toNat_lt
  have hv : c.toNat.isValidChar := Or.inl (by omega)
  have : (Char.ofNat c.toNat).toNat = c.toNat := by
    simp [Char.ofNat, hv, Char.ofNatAux, Char.toNat]
  rw [this]; exact UInt8.ofNat_toNat

/-- different words are different strings -/
theorem showStr_inj {a b : Str} (h : showStr a = showStr b) : a = b := by
  have := congrArg (List.map fun ch : Char => UInt8.ofNat ch.toNat) (String.ofList_injective h)
  simpa only [List.map_map, Function.comp_def, byte_of_char, List.map_id'] using this

theorem lookup_bind {α β δ} [BEq α] (a : α) (K : β → Option δ) :
    ∀ (tb : List (α × β)), (tb.lookup a).bind K = ((tb.map fun e => (e.1, K e.2)).lookup a).join
  | [] => rfl
  | e :: tb => by
    simp only [List.map_cons, List.lookup]
    cases a == e.1
    · exact lookup_bind a K tb
    · rfl

theorem lookup_showStr {δ} (s : Str) : ∀ (tb : List (Str × δ)),
    ((tb.map fun e => (showStr e.1, some e.2)).lookup (showStr s)).join = tb.lookup s
  | [] => rfl
  | e :: tb => by
    have : (showStr s == showStr e.1) = (s == e.1) := by
      rw [Bool.eq_iff_iff, beq_iff_eq, beq_iff_eq]; exact ⟨showStr_inj, congrArg _⟩
    simp only [List.map_cons, List.lookup, this]
    cases s == e.1
    · exact lookup_showStr s tb
    · rfl

/-- the keywords, as bytes -/
def kwTable : List (Str × TK) :=
  [(kwArray, .kArray), (kwConst, .kConst), (kwDeprecated, .kDeprecated), (kwEnum, .kEnum), (kwFalse, .kFalse),
   (kwFlags, .kFlags), (kwImport, .kImport), (kwInf, .kInf), (kwMap, .kMap), (kwMessage, .kMessage), (kwNan, .kNaN),
   (kwOpcode, .kOpCode), (kwReadonly, .kReadOnly), (kwStruct, .kStruct), (kwTrue, .kTrue), (kwUnion, .kUnion)]

/-- `keywordKind` is a lookup by bytes (the `decide` compares `kwTable` with the regenerated `Facts.keywordTable`) -/
theorem keywordKind_eq (s : Str) : keywordKind s = kwTable.lookup s := by
  unfold keywordKind
  -- the translation of kind names is pushed into the table; the table of strings that results is the image of
  -- `kwTable` under `showStr` (evaluated), and `showStr` is injective, so looking up `showStr s` there is looking up `s`
  rw [lookup_bind]
  exact (congrArg (fun tb => (List.lookup (showStr s) tb).join) (by decide +kernel)).trans (lookup_showStr s kwTable)

/-! ### one-byte tokens -/

theorem find_single {β δ} (n : Nat) (G : β → Option δ) : ∀ (tb : List (List Nat × β)),
    (tb.find? (fun e => e.1 == [n])).bind (fun e => G e.2) =
      ((tb.filterMap fun e => match e.1 with | [m] => some (m, G e.2) | _ => none).lookup n).join
  | [] => rfl
  | (ks, v) :: tb => by
    have ih := find_single n G tb
    match ks with
    | [] => exact ih
    | [m] =>
      have : (([m] : List Nat) == [n]) = (n == m) := by
        rw [BEq.comm (a := n), List.cons_beq_cons]; exact Bool.and_true _
      simp only [List.find?, this, List.filterMap_cons, List.lookup]
      cases n == m
      · exact ih
      · rfl
    | _ :: _ :: _ => simpa [List.find?] using ih

/-- the one-byte keys of the token tree: the thirteen simple terminals, and the bytes that start a string or a number
    (`none`: they are keys, but of no simple terminal; they are listed because the comparison in `singleByteKind_eq`
    is with all one-byte keys of the regenerated table) -/
def sbTable : List (Nat × Option TK) :=
  [(61, some .equals), (91, some .openSquare), (93, some .closeSquare), (123, some .openCurly), (125, some .closeCurly),
   (40, some .openParen), (41, some .closeParen), (44, some .comma), (59, some .semicolon), (10, some .newline),
   (124, some .vbar), (38, some .amp), (58, some .colon), (34, none), (48, none), (49, none), (50, none), (51, none),
   (52, none), (53, none), (54, none), (55, none), (56, none), (57, none)]

/-- `singleByteKind` is a lookup by number (the `decide` compares `sbTable` with the regenerated `Facts.tokenTreeAdds`) -/
theorem singleByteKind_eq (c : Byte) : singleByteKind c = (sbTable.lookup c.toNat).join := by
  unfold singleByteKind
  rw [find_single]
  exact congrArg (fun tb => (List.lookup c.toNat tb).join) (by decide +kernel)

theorem lookup_join_some {δ} {n : Nat} {k : δ} : ∀ {tb : List (Nat × Option δ)}, (tb.lookup n).join = some k → (n, some k) ∈ tb
  | e :: tb, h => by
    simp only [List.lookup] at h
    cases hb : n == e.1 <;> rw [hb] at h
    · exact List.mem_cons_of_mem _ (lookup_join_some h)
    · obtain rfl : n = e.1 := eq_of_beq hb
      exact (show e = (e.1, some k) by rw [← show e.2 = some k from h]) ▸ List.mem_cons_self

/-- a one-byte token is no letter and no digit -/
theorem sbk_range {c : Byte} {k : TK} (h : singleByteKind c = some k) :
    c.toNat < 0x30 ∨ (0x39 < c.toNat ∧ c.toNat < 0x41) ∨ (0x5a < c.toNat ∧ c.toNat < 0x61) ∨ 0x7a < c.toNat := by
  have hall : ∀ e ∈ sbTable, e.2.isSome = true →
      e.1 < 0x30 ∨ (0x39 < e.1 ∧ e.1 < 0x41) ∨ (0x5a < e.1 ∧ e.1 < 0x61) ∨ 0x7a < e.1 := by decide +kernel
  exact hall _ (lookup_join_some (singleByteKind_eq c ▸ h)) rfl

/-! ### type names -/

def nByte : Str := [98, 121, 116, 101]
def nFloat32 : Str := [102, 108, 111, 97, 116, 51, 50]
def nFloat64 : Str := [102, 108, 111, 97, 116, 54, 52]
def nInt16 : Str := [105, 110, 116, 49, 54]
def nInt32 : Str := [105, 110, 116, 51, 50]
def nInt64 : Str := [105, 110, 116, 54, 52]
def nUint16 : Str := [117, 105, 110, 116, 49, 54]
def nUint64 : Str := [117, 105, 110, 116, 54, 52]
def nUint8 : Str := [117, 105, 110, 116, 56]

theorem strOf_names : strOf "bool" = kwBool ∧ strOf "byte" = nByte ∧ strOf "float32" = nFloat32 ∧
    strOf "float64" = nFloat64 ∧ strOf "guid" = kwGuid ∧ strOf "int16" = nInt16 ∧ strOf "int32" = nInt32 ∧
    strOf "int64" = nInt64 ∧ strOf "string" = kwString ∧ strOf "uint16" = nUint16 ∧ strOf "uint32" = kwUint32 ∧
    strOf "uint64" = nUint64 ∧ strOf "uint8" = nUint8 := by decide +kernel

theorem strEq_bool (s : Str) : strEq s "bool" = (s == kwBool) := by simp only [strEq, strOf_names]
theorem strEq_guid (s : Str) : strEq s "guid" = (s == kwGuid) := by simp only [strEq, strOf_names]
theorem strEq_string (s : Str) : strEq s "string" = (s == kwString) := by simp only [strEq, strOf_names]
theorem strOf_uint32 : strOf "uint32" = kwUint32 := by simp only [strOf_names]

theorem any_strEq (s : Str) : ∀ (l : List String), l.any (strEq s) = (l.map strOf).contains s
  | [] => rfl
  | x :: l => by simp only [List.any_cons, List.map_cons, List.contains_cons, strEq, any_strEq s l]

def uintNames : List Str := [nByte, nUint16, kwUint32, nUint64, nUint8]
def intNames : List Str := [nInt16, nInt32, nInt64]
def floatNames : List Str := [nFloat32, nFloat64]

/-- width and signedness of the integer types -/
def intTypes : List (Str × Nat × Bool) :=
  [(nByte, 8, true), (nUint8, 8, true), (nUint16, 16, true), (kwUint32, 32, true), (nUint64, 64, true),
   (nInt16, 16, false), (nInt32, 32, false), (nInt64, 64, false)]

theorem isUintName_eq (s : Str) : isUintName s = uintNames.contains s := by
  rw [isUintName, any_strEq]
  simp only [Facts.uintTypeNames, List.map_cons, List.map_nil, strOf_names, uintNames]

theorem isIntName_eq (s : Str) : isIntName s = intNames.contains s := by
  rw [isIntName, any_strEq]
  simp only [Facts.intTypeNames, List.map_cons, List.map_nil, strOf_names, intNames]

theorem isFloatName_eq (s : Str) : isFloatName s = floatNames.contains s := by
  rw [isFloatName, any_strEq]
  simp only [Facts.floatTypeNames, List.map_cons, List.map_nil, strOf_names, floatNames]

theorem find_strEq {δ} (s : Str) : ∀ (tb : List (String × δ)),
    (tb.find? (fun e => strEq s e.1)).map (·.2) = (tb.map fun e => (strOf e.1, e.2)).lookup s
  | [] => rfl
  | e :: tb => by
    simp only [List.find?, List.map_cons, List.lookup, strEq]
    cases s == strOf e.1
    · exact find_strEq s tb
    · rfl

theorem decodeInteger_eq (s : Str) : decodeInteger s = intTypes.lookup s := by
  rw [decodeInteger, find_strEq]
  simp only [Facts.integerTypes, List.map_cons, List.map_nil, strOf_names, intTypes]

end Canon
end Bebop.Text
