/-
  Helper lemma: io.ReadFull over a reader that fragments its data arbitrarily returns the same bytes, and
  leaves the same bytes unread, as over the unfragmented data.
-/
import Bebop.Stream

namespace Bebop

theorem readFullChunks_flat (n : Nat) (cs : List (List Byte)) :
    (readFullChunks n cs).1 = cs.flatten.take n ∧ (readFullChunks n cs).2.flatten = cs.flatten.drop n := by
  fun_induction readFullChunks n cs with
  | case1 | case2 => simp
  | case3 _ _ ih => simpa using ih
  | case4 _ _ _ _ _ _ h ih => rw [h] at ih; simpa using ih

end Bebop
