/-
  The command-line tools' file-system programs (Bebop.Text.Cli): a program of the safe shape (`safeTail`) never
  writes to the target except by the rename, every call before the rename is checked, and when the rename is
  reached the temporary file holds exactly the produced bytes (`PhaseInv`); so every run preserves the target or
  installs the bytes (`safe_preserves`).
-/
import Bebop.Text.Cli

namespace Bebop.Cli

/-- After the rename only clean-up is left: nothing can fail any more. -/
theorem exec_cleanup (data : Bytes) (rest : List Step) (sched : List Outcome) (fs : FS) (failed : Bool)
    (h : rest.all (fun t => t.deferred || t.act = .benign) = true) :
    exec data rest sched fs failed = { fs := fs, exit := .zero, failed := failed } := by
  induction rest with
  | nil => rfl
  | cons s rest ih =>
    rw [List.all_cons, Bool.and_eq_true] at h
    unfold exec
    rw [if_pos h.1]
    exact ih h.2

/-- Only a write to the target can leave it changed when a call fails or is cut short. -/
theorem applyPartial_target {a : Act} (h : a ≠ .writeTarget) (data : Bytes) (n : Nat) (fs : FS) :
    (applyPartial a data n fs).target = fs.target := by
  fun_cases applyPartial a data n fs
  · rfl
  · exact absurd rfl h
  · rfl

theorem preserves_of_failed {before : Option Bytes} {fs : FS} (data : Bytes) {e : Exit}
    (ht : fs.target = before) (he : e ≠ .zero) : Preserves before data { fs := fs, exit := e, failed := true } :=
  ⟨fun _ => ⟨ht, he⟩, nofun⟩

/-- What the temporary file holds in phase `ph` of `safeTail`: 0 before CreateTemp, 1 created and empty, 2 written. -/
def PhaseInv (ph : Nat) (data : Bytes) (fs : FS) : Prop :=
  match ph with
  | 1 => fs.tmp = some []
  | 2 => fs.tmp = some data
  | _ => True

theorem safeTail_skip {ph : Nat} {s : Step} {rest : List Step} (h : safeTail ph (s :: rest) = true)
    (hs : (s.deferred || decide (s.act = .benign)) = true) : safeTail ph rest = true := by
  unfold safeTail at h
  by_cases hd : s.deferred = true
  · rw [if_pos hd, Bool.and_eq_true] at h
    exact h.2
  · rw [if_neg hd, if_pos (by simpa [hd] using hs)] at h
    exact h

/-- What the safe shape says of a call that is executed: it is checked, it does not write to the target,
    and either it is the rename, with only clean-up after it, or it leaves the target alone and takes the
    invariant of its phase to that of the next. -/
theorem safeTail_step {ph : Nat} {s : Step} {rest : List Step} (h : safeTail ph (s :: rest) = true)
    (hs : ¬ (s.deferred || decide (s.act = .benign)) = true) :
    s.checked = true ∧ s.act ≠ .writeTarget ∧
    ((s.act = .rename ∧ ph = 2 ∧ rest.all (fun t => t.deferred || t.act = .benign) = true) ∨
      ∃ ph', safeTail ph' rest = true ∧ ∀ data fs, PhaseInv ph data fs →
        PhaseInv ph' data (applyOk s.act data fs) ∧ (applyOk s.act data fs).target = fs.target) := by
  unfold safeTail at h
  simp only [Bool.or_eq_true, decide_eq_true_eq, not_or] at hs
  rw [if_neg hs.1, if_neg hs.2] at h
  split at h
  · cases h
  refine ⟨by simpa using ‹¬ (!s.checked) = true›, ?_⟩
  -- the arms of `safeTail`'s match, in order: read (0→0), createTemp (0→1), writeTemp (1→2), tempMeta (2→2),
  -- rename (2, then only clean-up), and the catch-all
  generalize s.act = a at h ⊢
  split at h
  · exact ⟨nofun, .inr ⟨0, h, fun _ _ _ => ⟨trivial, rfl⟩⟩⟩
  · exact ⟨nofun, .inr ⟨1, h, fun _ _ _ => ⟨rfl, rfl⟩⟩⟩
  · exact ⟨nofun, .inr ⟨2, h, fun data fs (hi : fs.tmp = some []) =>
      ⟨show some (fs.tmp.getD [] ++ data) = some data by rw [hi]; rfl, rfl⟩⟩⟩
  · exact ⟨nofun, .inr ⟨2, h, fun _ _ hi => ⟨hi, rfl⟩⟩⟩
  · exact ⟨nofun, .inl ⟨rfl, rfl, h⟩⟩
  · cases h

theorem safe_exec (data : Bytes) (prog : List Step) (ph : Nat) (sched : List Outcome) (fs : FS)
    (h : safeTail ph prog = true) (hinv : PhaseInv ph data fs) :
    Preserves fs.target data (exec data prog sched fs false) := by
  induction prog generalizing ph sched fs with
  | nil => cases h
  | cons s rest ih =>
    unfold exec
    split
    · exact ih ph sched fs (safeTail_skip h ‹_›) hinv
    · obtain ⟨hc, hw, hstep⟩ := safeTail_step h ‹_›
      split
      · -- the call succeeds
        rcases hstep with ⟨ha, rfl, hrest⟩ | ⟨ph', hrest, hnext⟩
        · rw [exec_cleanup data rest _ _ false hrest, ha]
          exact ⟨nofun, fun _ => ⟨rfl, hinv⟩⟩
        · obtain ⟨hinv', ht⟩ := hnext data fs hinv
          exact ht ▸ ih ph' _ _ hrest hinv'
      · -- it fails: reported, since it is checked
        rw [if_pos hc]
        exact preserves_of_failed data (applyPartial_target hw ..) (by decide)
      · -- the process dies in it
        exact preserves_of_failed data (applyPartial_target hw ..) (by decide)

/-- Every program of the safe shape keeps the target intact on every failing run and installs exactly the
    produced bytes on every run in which nothing failed. -/
theorem safe_preserves (prog : List Step) (h : SafeProg prog = true) (data : Bytes) (sched : List Outcome) (fs : FS) :
    Preserves fs.target data (exec data prog sched fs false) :=
  safe_exec data prog 0 sched fs h trivial

/-- A run that meets the claim exits 0 exactly when nothing failed. -/
theorem Preserves.exit_zero_iff {before : Option Bytes} {data : Bytes} {r : Run} (h : Preserves before data r) :
    r.exit = .zero ↔ r.failed = false := by
  refine ⟨fun hz => ?_, fun hf => (h.2 hf).1⟩
  cases hf : r.failed with
  | false => rfl
  | true => exact absurd hz (h.1 hf).2

end Bebop.Cli
