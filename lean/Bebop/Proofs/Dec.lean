/-
  The byte-slice decoder `dec` taken apart where unfolding its mutual block would cost a case per type or drag
  the record bodies along: the primitive types as one case (`dec_fixed`); a nested record as "decode the record,
  then move the cursor" (`dec_ref`: `decRecord`, `advance`), where `decRecord` is also what `unmarshal` runs
  (`unmarshal_eq`).  (Strings, arrays and maps are one `simp only [dec]` away and are unfolded where needed.)
  Before that, what the reads, the primitive conversions and the map / message assignments do on an encoding.

  Fuel, unit by unit (`rank` adds 2 for a record: the stream decoder burns two on it, the byte-slice decoder
  two on a message or union and one on a struct):
    dec (f+1) … (.ref n)  = decRecord f, then `advance` (`dec_ref`);   sdec (f+1) … (.ref n) = sdecRecord f
    decRecord f, struct:    fields by `dec f`;    decRecord (f+1), message / union: fields / member by `dec f`
    sdecRecord (f+1):       fields / member by `sdec f`, whatever the kind
    unmarshal f = decRecord f (`unmarshal_eq`);   decodeStream f = sdecRecord f
  So `dec f`, `sdec f` and `decodeStream f` are stated for `rank v < f`, `unmarshal f` for `rank v < f + 1`, and
  `runDec fuel` (Props/Common) hands `fuel` to `unmarshal` and `fuel + 1` to `decodeStream`.
-/
import Bebop.Proofs.Enc
import Bebop.Proofs.GSize

namespace Bebop

/-! ### Sequencing in `Res` -/

theorem bind_eq_ok {α β} {r : Res α} {g : α → Res β} {b : β} (h : (r >>= g) = .ok b) :
    ∃ a, r = .ok a ∧ g a = .ok b := by
  cases r with
  | ok a => exact ⟨a, rfl, h⟩
  | _ => cases h

theorem bind_eq_err_of {α β} {r : Res α} {g : α → Res β} (h : r = .err) : (r >>= g) = .err := by
  subst h; rfl

/-! ### Reads, conversions, assignments -/

theorem readN_append (chk : Bool) (n : Nat) (bs rest : List Byte) (h : bs.length = n) :
    readN chk n (bs ++ rest) = .ok (bs, rest) := by
  subst h; simp [readN]

theorem readU32_append (chk : Bool) (n : Nat) (rest : List Byte) (h : n < 2^32) :
    readU32 chk (leBytes 4 n ++ rest) = .ok (n, rest) := by
  simp [readU32, readN_append chk 4 (leBytes 4 n) rest (by simp), ofLe_leBytes 4 n h]

/-- Selecting the positions `p` from the selection of the positions `q` gives a list back when `q` sends `p[i]` to `i`. -/
theorem select_inverse {p q : List Nat} {bs : List Byte} (hl : p.length = bs.length)
    (h : ∀ i (hi : i < p.length), q[p[i]]? = some i) :
    p.map (fun i => (q.map (bs.getD · 0)).getD i 0) = bs :=
  List.ext_getElem (by rw [List.length_map, hl]) fun i _ hb => by
    simp only [List.getElem_map, List.getD_eq_getElem?_getD, List.getElem?_map, h i (hl ▸ hb), List.getElem?_eq_getElem hb,
      Option.map_some, Option.getD_some]

/-- The two regenerated GUID tables are inverse permutations of sixteen positions. -/
theorem guid_tables_inverse (bs : List Byte) (h : bs.length = 16) :
    guidRead (guidWire bs) = bs ∧ guidWire (guidRead bs) = bs :=
  ⟨select_inverse h.symm (by decide), select_inverse h.symm (by decide)⟩

theorem guidRead_guidWire (bs : List Byte) (h : bs.length = 16) : guidRead (guidWire bs) = bs :=
  (guid_tables_inverse bs h).1

theorem toInt64_ofInt64 (x : Int) (h1 : -(2^63 : Int) ≤ x) (h2 : x < (2^63 : Int)) :
    toInt64 (ofInt64 x) = x := by
  unfold toInt64 ofInt64
  omega

theorem ofInt64_toInt64 (n : Nat) (h : n < 2^64) : ofInt64 (toInt64 n) = n := by
  unfold toInt64 ofInt64
  rw [Nat.mod_eq_of_lt h]
  omega

theorem dateNorm_of_ok (n : Nat) (h : dateOk n) : dateNorm n = n := by
  obtain ⟨hn, h1, h2⟩ := h
  unfold dateNorm
  simp only [toInt64_ofInt64 _ h1 h2]
  split
  · next hz =>
    have : toInt64 n = 0 := by have := eq_of_beq hz; omega
    rw [← ofInt64_toInt64 n hn, this]; rfl
  · rw [Int.mul_tdiv_cancel _ (by decide)]; exact ofInt64_toInt64 n hn

/-- What a fixed-size primitive type makes of the bytes it read. -/
def primVal : Ty → List Byte → Val
  | .bool, bs => .scalar 1 (if ofLe bs == 1 then 1 else 0)
  | .scalar w, bs => .scalar w (ofLe bs)
  | .f32, bs => .scalar 4 (ofLe bs)
  | .f64, bs => .scalar 8 (ofLe bs)
  | .date, bs => .scalar 8 (dateNorm (ofLe bs))
  | .guid, bs => .guid (guidRead bs)
  | _, _ => default

theorem fixedSize_of_wt_scalar {env : Env} {ty : Ty} {w n : Nat} (h : wt env ty (.scalar w n)) : fixedSize ty = some w := by
  obtain ⟨_, ⟨rfl, _⟩ | ⟨rfl, rfl, _⟩ | ⟨rfl, rfl⟩ | ⟨rfl, rfl⟩ | ⟨rfl, rfl, _⟩⟩ := h <;> rfl

/-- A value of a fixed-size type: its encoding has that size, and the type reads it back as the value. -/
theorem primVal_enc {env : Env} {t : Ty} {s : Nat} (hs : fixedSize t = some s) {v : Val} (h : wt env t v) :
    (enc v).length = s ∧ primVal t (enc v) = v := by
  -- a type of fixed size is a key type
  obtain ⟨w, n, rfl⟩ | ⟨bs, rfl⟩ | ⟨bs, rfl⟩ := key_cases (k := t) (by cases t <;> first | rfl | cases hs) h
  · have hw := (fixedSize_of_wt_scalar h).symm.trans hs
    obtain ⟨hn, h⟩ := h
    have := ofLe_leBytes w n hn
    refine ⟨by simpa [enc] using hw, ?_⟩
    rcases h with ⟨rfl, _⟩ | ⟨rfl, rfl, h1⟩ | ⟨rfl, rfl⟩ | ⟨rfl, rfl⟩ | ⟨rfl, rfl, hd⟩ <;> simp [primVal, enc, this]
    · split <;> omega
    · exact dateNorm_of_ok n hd
  · obtain ⟨rfl, _⟩ := h; cases hs
  · obtain ⟨rfl, hl⟩ := h; cases hs; simp [primVal, enc, guidRead_guidWire bs hl, Facts.szGuid]

theorem vsize_of_fixed (env : Env) (t : Ty) (s : Nat) (hs : fixedSize t = some s) (v : Val) (h : wt env t v) :
    vsize v = s := by
  rw [← length_enc]; exact (primVal_enc hs h).1

theorem vsizeList_of_fixed (env : Env) (t : Ty) (s : Nat) (hs : fixedSize t = some s) (vs : List Val)
    (h : wtList env t vs) : vsizeList vs = vs.length * s := by
  induction vs with
  | nil => simp [vsizeList]
  | cons v vs ih => simp [vsizeList, vsize_of_fixed env t s hs v h.1, ih h.2, Nat.add_mul, Nat.add_comm]

theorem mapInsert_fresh (kt : Ty) (k v : Val) (acc : List (Val × Val))
    (h : ∀ a ∈ acc, keyEq kt a.1 k = false) : mapInsert kt k v acc = acc ++ [(k, v)] := by
  induction acc with
  | nil => rfl
  | cons a acc ih =>
    obtain ⟨k', v'⟩ := a
    have h1 : keyEq kt k' k = false := h (k', v') (by simp)
    simp [mapInsert, h1, ih (fun a ha => h a (by simp [ha]))]

/-- With pairwise distinct keys, none of them in the map yet, every assignment appends. -/
theorem foldl_mapInsert_fresh (kt : Ty) (g : Val → Val) (kvs acc : List (Val × Val)) (hk : keysDistinct kt kvs)
    (hacc : ∀ a ∈ acc, ∀ kv ∈ kvs, keyEq kt a.1 kv.1 = false) :
    kvs.foldl (fun acc kv => mapInsert kt kv.1 (g kv.2) acc) acc = acc ++ kvs.map (fun kv => (kv.1, g kv.2)) := by
  induction kvs generalizing acc with
  | nil => simp
  | cons kv kvs ih =>
    rw [List.foldl_cons, mapInsert_fresh kt _ _ acc fun x hx => hacc x hx _ List.mem_cons_self, ih _ hk.2, List.map_cons,
      List.append_assoc, List.singleton_append]
    intro x hx kv' hkv
    rcases List.mem_append.mp hx with hx | hx
    · exact hacc x hx kv' (List.mem_cons_of_mem _ hkv)
    · cases List.mem_singleton.mp hx; exact hk.1 kv' hkv

theorem msgSet_fresh (i : Nat) (v : Val) (acc : List (Nat × Val)) (h : ∀ a ∈ acc, a.1 < i) :
    msgSet i v acc = acc ++ [(i, v)] := by
  induction acc with
  | nil => rfl
  | cons a acc ih =>
    obtain ⟨j, w⟩ := a
    have h1 : j < i := h (j, w) (by simp)
    have h2 : ¬ i < j := by omega
    have h3 : ¬ i = j := by omega
    simp [msgSet, h2, h3, ih (fun a ha => h a (by simp [ha]))]

/-- A field above everything stored so far goes to the end, and the bound moves up to it. -/
theorem msgSet_snoc {acc : List (Nat × Val)} {lo i : Nat} (hacc : ∀ a ∈ acc, a.1 ≤ lo) (hlo : lo < i) (v : Val) :
    msgSet i v acc = acc ++ [(i, v)] ∧ ∀ a ∈ acc ++ [(i, v)], a.1 ≤ i := by
  refine ⟨msgSet_fresh i v acc fun a ha => Nat.lt_of_le_of_lt (hacc a ha) hlo, fun a ha => ?_⟩
  rcases List.mem_append.mp ha with ha | ha
  · exact Nat.le_of_lt (Nat.lt_of_le_of_lt (hacc a ha) hlo)
  · cases List.mem_singleton.mp ha; exact Nat.le_refl _

theorem length_le_encFields (fs : List (Nat × Val)) : fs.length ≤ (encFields fs).length := by
  induction fs with
  | nil => simp
  | cons iv fs ih => simp [encFields]; omega

theorem Progress.tail {v : Val} {vs : List Val} (h : Progress (v :: vs)) : Progress vs := by
  rcases h with h | h
  · left; simp at h; omega
  · right; intro x hx; exact h x (by simp [hx])

/-- The zero-progress guard of `decN` / `sdecN` never fires on an element of a `Progress` list. -/
theorem Progress.head_guard {v : Val} {vs : List Val} (h : Progress (v :: vs)) :
    ¬ ((enc v).length = 0 ∧ loopSlack ≤ vs.length) := by
  rintro ⟨h0, hs⟩
  rcases h with h | h
  · simp at h; omega
  · have := h v (by simp); rw [← length_enc] at this; omega

/-- A map key occupies at least one byte. -/
theorem key_enc_pos (env : Env) (k : Ty) (hk : isKeyTy k = true) (a : Val) (h : wt env k a) : 0 < (enc a).length := by
  obtain ⟨w, n, rfl⟩ | ⟨bs, rfl⟩ | ⟨bs, rfl⟩ := key_cases hk h
  · obtain ⟨_, h⟩ := h
    rcases h with ⟨_, hw⟩ | ⟨_, rfl, _⟩ | ⟨_, rfl⟩ | ⟨_, rfl⟩ | ⟨_, rfl, _⟩ <;> simp [enc] <;> omega
  · simp [enc]; omega
  · simp [enc]

/-! ### `dec`, shape by shape -/

theorem dec_fixed {t : Ty} {s : Nat} (hs : fixedSize t = some s) (f : Nat) (env : Env) (safe : Bool)
    (buf : List Byte) :
    dec (f+1) env safe t buf = readN safe s buf >>= fun p => pure (primVal t p.1, p.2) := by
  cases t <;> cases hs <;> rfl

/-- The six fixed-size primitive types at once. -/
theorem dec_enc_fixed {env : Env} {t : Ty} {s : Nat} (hs : fixedSize t = some s) {v : Val} (h : wt env t v)
    (f : Nat) (env1 : Env) (safe : Bool) (rest : List Byte) : dec (f+1) env1 safe t (enc v ++ rest) = .ok (v, rest) := by
  rw [dec_fixed hs, readN_append safe s _ rest (primVal_enc hs h).1]
  simp [(primVal_enc hs h).2]

/-- `UnmarshalBebop` of record `n`, with the cursor it stopped at. -/
def decRecord (f : Nat) (env : Env) (safe : Bool) (n : Nat) (buf : List Byte) : Res (Val × List Byte) :=
  match env[n]? with
  | none => .err
  | some (.struct tys) => decFields (dec f env safe) tys buf >>= fun p => pure (.struct p.1, p.2)
  | some (.msg fds) => decMsgBody f env safe fds buf
  | some (.union brs) => decUnionBody f env safe brs buf

theorem decRecord_struct {env : Env} {n : Nat} {tys : List Ty} (hn : env[n]? = some (.struct tys)) (f : Nat) (safe : Bool)
    (buf : List Byte) :
    decRecord f env safe n buf = decFields (dec f env safe) tys buf >>= fun p => pure (.struct p.1, p.2) := by
  simp only [decRecord, hn]

theorem decRecord_msg {env : Env} {n : Nat} {fds : List MsgField} (hn : env[n]? = some (.msg fds)) (f : Nat) (safe : Bool)
    (buf : List Byte) :
    decRecord (f+1) env safe n buf = readN safe 4 buf >>= fun p =>
      decMsgLoop safe (dec f env safe) fds (p.2.length + 1) p.2 [] >>= fun q => pure (.msg q.1, q.2) := by
  simp only [decRecord, hn]; rfl

theorem decRecord_union {env : Env} {n : Nat} {brs : List (Nat × Nat)} (hn : env[n]? = some (.union brs)) (f : Nat)
    (safe : Bool) (buf : List Byte) :
    decRecord (f+1) env safe n buf = readN safe 4 buf >>= fun p =>
      match p.2 with
      | [] => if safe then .err else .panic
      | b :: rest =>
        match brs.lookup b.toNat with
        | none => pure (emptyUnion, p.2)
        | some m => dec f env safe (.ref m) rest >>= fun q => pure (.union b.toNat q.1, q.2) := by
  simp only [decRecord, hn]; rfl

/-- Stepping over a length-prefixed record (`hdr` bytes of header that the prefix does not count): by the
    prefix, the checked variant by no less than `size`. -/
def skipPrefixed (hdr : Nat) (safe : Bool) (size : Nat) (buf : List Byte) (v : Val) : Res (Val × List Byte) :=
  let wire := hdr + ofLe (buf.take 4)
  let ln := if safe then max wire size else wire
  if ln ≤ buf.length then pure (v, buf.drop ln) else if safe then .err else .panic

/-- After a message or union — a u32 prefix `n`, then a body of `n + x` bytes — the cursor moves to exactly
    behind the body: `Size()` of what was decoded (`g`) is never more. -/
theorem skipPrefixed_frame (safe : Bool) {n H : Nat} {body buf rest : List Byte} (hbuf : buf = leBytes 4 n ++ (body ++ rest))
    (hn : n < 2^32) (hb : body.length + 4 = H + n) {g : Nat} (hg : g ≤ H + n) (v : Val) :
    skipPrefixed H safe g buf v = .ok (v, rest) := by
  subst hbuf
  have hln : (if safe = true then max (H + n) g else H + n) = (leBytes 4 n ++ body).length := by
    rw [Nat.max_eq_left hg, ite_self, List.length_append, length_leBytes]; omega
  rw [skipPrefixed, List.take_left' (length_leBytes 4 n), ofLe_leBytes 4 n hn, hln, ← List.append_assoc, List.drop_left,
    if_pos (by simp)]
  rfl

/-- `at += …` in the parent after the nested record `n` was decoded from the front of `buf` as `v`. -/
def advance (env : Env) (safe : Bool) (n : Nat) (buf : List Byte) (v : Val) : Res (Val × List Byte) :=
  match env[n]? with
  | none => .err
  | some (.struct _) => if gsize env (.ref n) v ≤ buf.length then pure (v, buf.drop (gsize env (.ref n) v)) else .panic
  | some (.msg _) => skipPrefixed Facts.msgHeaderLen safe (gsize env (.ref n) v) buf v
  | some (.union _) => skipPrefixed Facts.unionHeaderLen safe (gsize env (.ref n) v) buf v

theorem dec_ref (f : Nat) (env : Env) (safe : Bool) (n : Nat) (buf : List Byte) :
    dec (f+1) env safe (.ref n) buf = decRecord f env safe n buf >>= fun p => advance env safe n buf p.1 := by
  rw [dec, decRecord]; unfold advance
  rcases env[n]? with _ | ⟨tys | fds | brs⟩
  · rfl
  · simp only []; cases decFields (dec f env safe) tys buf <;> rfl
  · rfl
  · rfl

theorem unmarshal_eq (f : Nat) (env : Env) (safe : Bool) (n : Nat) (buf : List Byte) :
    unmarshal f env safe n buf = decRecord f env safe n buf >>= fun p => pure p.1 := by
  rw [unmarshal, decRecord]
  rcases env[n]? with _ | ⟨tys | fds | brs⟩
  · rfl
  · simp only []; cases decFields (dec f env safe) tys buf <;> rfl
  · rfl
  · rfl

theorem skipPrefixed_fst {hdr size : Nat} {safe : Bool} {buf : List Byte} {v : Val} {p : Val × List Byte}
    (h : skipPrefixed hdr safe size buf v = .ok p) : p.1 = v := by
  cases safe <;> simp only [skipPrefixed, if_true, Bool.false_eq_true, if_false] at h <;> split at h <;> cases h <;> rfl

theorem advance_fst {env : Env} {safe : Bool} {n : Nat} {buf : List Byte} {v : Val} {p : Val × List Byte}
    (h : advance env safe n buf v = .ok p) : p.1 = v := by
  unfold advance at h
  split at h
  · cases h
  · split at h <;> cases h; rfl
  · exact skipPrefixed_fst h
  · exact skipPrefixed_fst h

/-- The nested form of a record decode determines the top-level form. -/
theorem unmarshal_of_dec (f : Nat) (env : Env) (safe : Bool) (n : Nat) (buf : List Byte) (v : Val)
    (rest : List Byte) (h : dec (f+1) env safe (.ref n) buf = .ok (v, rest)) :
    unmarshal f env safe n buf = .ok v := by
  rw [dec_ref] at h
  obtain ⟨p, h1, h2⟩ := bind_eq_ok h
  rw [unmarshal_eq, h1]; exact congrArg Res.ok (advance_fst h2).symm

end Bebop
