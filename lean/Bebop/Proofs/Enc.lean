/-
  Helper lemmas about the reference encoder, Size() and MarshalBebopTo.
-/
import Bebop.Slice

namespace Bebop

@[simp] theorem length_guidWire (bs : List Byte) : (guidWire bs).length = 16 := rfl

mutual
theorem length_enc : (v : Val) → (enc v).length = vsize v
  | .scalar w n => by simp [enc, vsize]
  | .str bs => by simp [enc, vsize]
  | .guid bs => by simp [enc, vsize]
  | .arr vs => by simp [enc, vsize, length_encList vs]
  | .map kvs => by simp [enc, vsize, length_encKVs kvs]
  | .struct fs => by simp [enc, vsize, length_encList fs]
  | .msg fs => by simp [enc, vsize, length_encFields fs, Facts.msgSizeBase]; omega
  | .union d v => by simp [enc, vsize, length_enc v, Facts.unionSizeBase]; omega
theorem length_encList : (vs : List Val) → (encList vs).length = vsizeList vs
  | [] => rfl
  | v :: vs => by simp [encList, vsizeList, length_enc v, length_encList vs]
theorem length_encKVs : (kvs : List (Val × Val)) → (encKVs kvs).length = vsizeKVs kvs
  | [] => rfl
  | (k, v) :: kvs => by simp [encKVs, vsizeKVs, length_enc k, length_enc v, length_encKVs kvs]; omega
theorem length_encFields : (fs : List (Nat × Val)) → (encFields fs).length = vsizeFields fs
  | [] => rfl
  | (i, v) :: fs => by simp [encFields, vsizeFields, length_enc v, length_encFields fs]; omega
end

/-- The length prefix a message is written with (`Size() - 4`) counts its fields and the terminator. -/
theorem msg_prefix (fs : List (Nat × Val)) : vsize (.msg fs) - Facts.msgLenAdjust = (encFields fs).length + 1 := by
  simp only [vsize, Facts.msgSizeBase, Facts.msgLenAdjust, length_encFields]; omega

/-- The length prefix a union is written with (`Size() - 5`) counts its member, not the discriminator. -/
theorem union_prefix (d : Nat) (v : Val) : vsize (.union d v) - Facts.unionLenAdjust = (enc v).length := by
  simp only [vsize, Facts.unionSizeBase, Facts.unionLenAdjust, length_enc]; omega

theorem enc_msg (fs : List (Nat × Val)) :
    enc (.msg fs) = leBytes 4 ((encFields fs).length + 1) ++ (encFields fs ++ [0]) := by
  simp only [enc, List.append_assoc]

theorem enc_union (d : Nat) (v : Val) : enc (.union d v) = leBytes 4 (enc v).length ++ (UInt8.ofNat d :: enc v) := by
  simp only [enc, List.append_assoc, List.singleton_append]

mutual
/-- The statements `MarshalBebopTo` executes store exactly the reference encoding. -/
theorem flatten_pieces : (v : Val) → (pieces v).flatten = enc v
  | .scalar w n => by simp [pieces, enc]
  | .str bs => by simp [pieces, enc]
  | .guid bs => by simp [pieces, enc]
  | .arr vs => by simp [pieces, enc, flatten_piecesList vs]
  | .map kvs => by simp [pieces, enc, flatten_piecesKVs kvs]
  | .struct fs => by simp [pieces, enc, flatten_piecesList fs]
  | .msg fs => by simp [pieces, enc, flatten_piecesFields fs, msg_prefix]
  | .union d v => by simp [pieces, enc, flatten_pieces v, union_prefix]
theorem flatten_piecesList : (vs : List Val) → (piecesList vs).flatten = encList vs
  | [] => rfl
  | v :: vs => by simp [piecesList, encList, flatten_pieces v, flatten_piecesList vs]
theorem flatten_piecesKVs : (kvs : List (Val × Val)) → (piecesKVs kvs).flatten = encKVs kvs
  | [] => rfl
  | (k, v) :: kvs => by simp [piecesKVs, encKVs, flatten_pieces k, flatten_pieces v, flatten_piecesKVs kvs]
theorem flatten_piecesFields : (fs : List (Nat × Val)) → (piecesFields fs).flatten = encFields fs
  | [] => rfl
  | (i, v) :: fs => by simp [piecesFields, encFields, flatten_pieces v, flatten_piecesFields fs]
end

/-- Storing pieces one after another overwrites exactly the window they cover. -/
theorem writePieces_eq (ps : List (List Byte)) (buf : List Byte) (at_ : Nat)
    (h : at_ + ps.flatten.length ≤ buf.length) :
    writePieces ps buf at_ =
      some (buf.take at_ ++ ps.flatten ++ buf.drop (at_ + ps.flatten.length), at_ + ps.flatten.length) := by
  induction ps generalizing buf at_ with
  | nil => simp [writePieces]
  | cons p ps ih =>
    simp only [List.flatten_cons, List.length_append] at h ⊢
    -- once `p` is stored the buffer is `(buf.take at_ ++ p) ++ …`, and the next piece goes right behind the bracket
    have hl : (buf.take at_ ++ p).length = at_ + p.length := by
      rw [List.length_append, List.length_take, Nat.min_eq_left (by omega)]
    rw [writePieces, writeAt, if_pos (by omega)]
    simp only []
    rw [ih _ _ (by rw [List.length_append, hl, List.length_drop]; omega), ← hl, List.take_left,
      List.drop_length_add_append, List.drop_drop, hl]
    simp [Nat.add_assoc]

end Bebop
