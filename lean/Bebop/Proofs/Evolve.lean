/-
  Schema evolution for the byte-slice decoders (C04): decoding under the OLDER schema `env1` what was encoded
  under a newer schema `env2` yields the value restricted to what `env1` knows, provided nested structs keep
  their size (`StructsStable`).  With `env1 = env2` the guard holds (`stable_self`) and this is the
  byte-slice round trip.

  Same plan as for the stream decoder (`Proofs/StreamEvolve`): the loops once, for any element decoder that
  meets the specification below rank `f` (`DecSpec`), and `dec` itself by induction on its fuel.  A nested
  record is `decRecord` — what `unmarshal` runs, which asks only for `TopStable` (`decRecord_evo`) — and then
  the cursor move, the one place where the guard on the record's own size is used (`advance_enc`).
-/
import Bebop.Proofs.Restrict
import Bebop.Proofs.Dec

namespace Bebop

/-- `d` does what the field decoder of `env1` should: on the encoding of a value of `env2` of rank below `f` whose
    nested structs keep their size, with anything behind it, it returns the restricted value and stops exactly
    behind the encoding. -/
def DecSpec (env1 env2 : Env) (f : Nat) (d : Ty → Dec) : Prop :=
  ∀ ty v rest, wt env2 ty v → StructsStable env1 ty v → rank v < f →
    d ty (enc v ++ rest) = .ok (restrict env1 ty v, rest)

section Loops
variable {env1 env2 : Env} {f : Nat} {d : Ty → Dec} (hd : DecSpec env1 env2 f d)
include hd

theorem decN_spec (vs : List Val) (t : Ty) (rest : List Byte) (h : wtList env2 t vs) (hs : stableList env1 t vs)
    (hp : Progress vs) (hf : rankList vs < f) :
    decN (d t) vs.length (encList vs ++ rest) = .ok (restrictList env1 t vs, rest) := by
  induction vs with
  | nil => rfl
  | cons v vs ih =>
    have hf := Nat.max_lt.mp hf
    have hg : ¬ ((encList vs ++ rest).length = (enc v ++ (encList vs ++ rest)).length ∧ loopSlack ≤ vs.length) :=
      fun ⟨hl, hs⟩ => hp.head_guard ⟨Nat.right_eq_add.mp (hl.trans List.length_append), hs⟩
    simp only [List.length_cons, decN, encList, restrictList, List.append_assoc, hd t v _ h.1 hs.1 hf.1, Res.ok_bind, hg,
      if_false, ih h.2 hs.2 hp.tail hf.2, Res.pure_eq]

/-- `hkt`: the reader sees the keys as they are — they are primitives (`key_plain`), or the reader's schema is
    the writer's.  The map being built is whatever Go's assignments make of it: distinct
    keys are needed only to say that it is the entries in order (`foldl_mapInsert_fresh`). -/
theorem decEntries_spec (kvs : List (Val × Val)) (k t : Ty) (rest : List Byte) (acc : List (Val × Val))
    (hkt : ∀ a, wt env2 k a → restrict env1 k a = a ∧ StructsStable env1 k a)
    (h : wtKVs env2 k t kvs) (hs : stableKVs env1 t kvs) (hf : rankKVs kvs < f) :
    decEntries k (d k) (d t) kvs.length (encKVs kvs ++ rest) acc
      = .ok (kvs.foldl (fun acc kv => mapInsert k kv.1 (restrict env1 t kv.2) acc) acc, rest) := by
  induction kvs generalizing acc with
  | nil => rfl
  | cons kv kvs ih =>
    obtain ⟨a, b⟩ := kv
    obtain ⟨hab, hf⟩ := Nat.max_lt.mp hf
    have hab := Nat.max_lt.mp hab
    have hdk := hd k a (enc b ++ (encKVs kvs ++ rest)) h.1 (hkt a h.1).2 hab.1
    rw [(hkt a h.1).1] at hdk
    simp only [List.length_cons, decEntries, encKVs, List.append_assoc, hdk, hd t b _ h.2.1 hs.1 hab.2, Res.ok_bind,
      List.foldl_cons, ih _ h.2.2 hs.2 hf]

theorem decFields_spec (fs : List Val) (tys : List Ty) (rest : List Byte) (h : wtStruct env2 tys fs)
    (hs : stableStruct env1 tys fs) (hf : rankList fs < f) :
    decFields d tys (encList fs ++ rest) = .ok (restrictStruct env1 tys fs, rest) := by
  induction fs generalizing tys with
  | nil => cases tys with
    | nil => rfl
    | cons _ _ => exact h.elim
  | cons v vs ih =>
    cases tys with
    | nil => exact h.elim
    | cons t tys =>
      have hf := Nat.max_lt.mp hf
      simp only [decFields, encList, restrictStruct, List.append_assoc, hd t v _ h.1 hs.1 hf.1, Res.ok_bind,
        ih tys h.2 hs.2 hf.2, Res.pure_eq]

/-- The byte-slice message loop stops at the first index the reader does not know and returns; what it
    leaves unread is of no concern — the caller positions the cursor by the length prefix.  When the reader
    knows every field that is the terminator. -/
theorem decMsgLoop_spec (safe : Bool) (fs : List (Nat × Val)) (fds fds2 : List MsgField) (rest : List Byte)
    (lo : Nat) (acc : List (Nat × Val)) (n : Nat) (hok : DefOk (.msg fds)) (hx : DefExtends (.msg fds) (.msg fds2))
    (h : wtMsg env2 fds2 lo fs) (hs : stableFields env1 fds fs) (hacc : ∀ a ∈ acc, a.1 ≤ lo) (hf : rankFields fs < f)
    (hn : fs.length < n) :
    ∃ r, (restrictFields env1 fds fs = fs → r = 0 :: rest) ∧
      decMsgLoop safe d fds n (encFields fs ++ 0 :: rest) acc = .ok (acc ++ restrictFields env1 fds fs, r) := by
  induction n generalizing fs lo acc with
  | zero => exact absurd hn (Nat.not_lt_zero _)
  | succ n ih =>
  cases fs with
  | nil =>
    have := find_zero_none hok
    exact ⟨0 :: rest, fun _ => rfl, by
      simp only [decMsgLoop, encFields, List.nil_append, UInt8.toNat_zero, this, restrictFields, List.append_nil]⟩
  | cons p fs =>
    obtain ⟨i, v⟩ := p
    have hwhole := h
    obtain ⟨hlo, hi, ⟨fd2, hfd2, _, hwv⟩, hrest⟩ := h
    have hf := Nat.max_lt.mp hf
    rcases hx.at_field hfd2 with ⟨fd, hfd, hty⟩ | ⟨hnone, habove⟩
    · have hidx : fd.idx = i := find_msgField fds i fd hfd
      obtain ⟨hset, hacc'⟩ := msgSet_snoc hacc hlo (restrict env1 fd.ty v)
      rw [← hty] at hwv
      simp only [stableFields, hfd] at hs
      obtain ⟨r, hall, hrec⟩ := ih fs i (acc ++ [(i, restrict env1 fd.ty v)]) hrest hs.2 hacc' hf.2
        (Nat.lt_of_succ_lt_succ hn)
      refine ⟨r, ?_, ?_⟩
      · simp only [restrictFields, hfd, List.cons.injEq]
        exact fun h => hall h.2
      · simp only [decMsgLoop, encFields, List.cons_append, List.append_assoc, UInt8.toNat_ofNat_of_lt' hi, hfd,
          hd fd.ty v _ hwv hs.1 hf.1, Res.ok_bind, hidx, hset, hrec, restrictFields, List.nil_append]
    · have hnil := restrictFields_above env1 env2 fds fds2 i v fs lo hwhole habove
      exact ⟨UInt8.ofNat i :: (enc v ++ encFields fs ++ 0 :: rest), by rw [hnil]; exact nofun, by
        simp only [decMsgLoop, encFields, List.cons_append, UInt8.toNat_ofNat_of_lt' hi, hnone, hnil, List.append_nil]⟩

end Loops

/-- `skipPrefixed_frame` for an encoding `e` that consists of its length prefix `k` and a body. -/
theorem skipPrefixed_enc (safe : Bool) {H k g : Nat} {e body rest : List Byte} (he : e = leBytes 4 k ++ body) (hk : k < 2^32)
    (hb : body.length + 4 = H + k) (hg : g ≤ e.length) (v : Val) : skipPrefixed H safe g (e ++ rest) v = .ok (v, rest) :=
  skipPrefixed_frame safe (by rw [he, List.append_assoc]) hk hb
    (by rw [he, List.length_append, length_leBytes, Nat.add_comm, hb] at hg; exact hg) v

/-- Where the parent puts the cursor after a nested record it decoded to the restricted value.  It is always inside
    the buffer: the reader's `Size()` of what it decoded never exceeds the bytes on the wire (`gsize_restrict_le`).
    A message or union is stepped over by its length prefix (the checked variant's `max` with `Size()` changes
    nothing), so the cursor is exactly behind it; a struct is stepped over by `Size()`, and that is its length
    on the wire only under the guard. -/
theorem advance_enc {env1 env2 : Env} (hx : Extends env1 env2) {n : Nat} {v : Val} (h : wt env2 (.ref n) v)
    (safe : Bool) (rest : List Byte) :
    ∃ r, advance env1 safe n (enc v ++ rest) (restrict env1 (.ref n) v) = .ok (restrict env1 (.ref n) v, r) ∧
      (StructsStable env1 (.ref n) v → r = rest) := by
  have hg := gsize_restrict_le env1 v (.ref n)
  rw [← length_enc] at hg
  obtain ⟨fs, rfl⟩ | ⟨fs, rfl⟩ | ⟨d, w, rfl⟩ := ref_cases h
  · obtain ⟨_, tys, hn', hn, -⟩ := h
    cases hn'
    refine ⟨_, by simp only [advance, hx.get_struct hn, List.length_append, Nat.le_add_right_of_le hg, if_true]; rfl,
      fun hs => ?_⟩
    rw [hs.1, ← length_enc, List.drop_left]
  · obtain ⟨_, fds2, hn', hn, -, hsz⟩ := h
    cases hn'
    obtain ⟨fds, hn1, -⟩ := hx.get_msg hn
    refine ⟨rest, ?_, fun _ => rfl⟩
    simp only [advance, hn1]
    exact skipPrefixed_enc safe (enc_msg fs) (length_encFields fs ▸ hsz) (by rw [List.length_append]; exact Nat.add_comm _ _)
      hg _
  · obtain ⟨_, brs, m, hn', hn, -, -, -, hsz⟩ := h
    cases hn'
    refine ⟨rest, ?_, fun _ => rfl⟩
    simp only [advance, hx.get_union hn]
    exact skipPrefixed_enc safe (enc_union d w) (length_enc w ▸ hsz) (Nat.add_comm 5 _).symm hg _

/-- `UnmarshalBebop` of the older schema, with the cursor it stops at.  Nobody steps over the record itself, so
    `TopStable` is all that is asked.  What the message loop leaves unread is of no concern; nor is where the
    member of a union stops, so a struct there need not keep its size either. -/
theorem decRecord_evo {env1 env2 : Env} (hE1 : EnvOk env1) (hx : Extends env1 env2) {safe : Bool} {f : Nat}
    (ih : ∀ m ≤ f, DecSpec env1 env2 m (dec m env1 safe)) {n : Nat} {v : Val} (h : wt env2 (.ref n) v)
    (hs : TopStable env1 n v) (hf : rank v < f + 1) (rest : List Byte) :
    ∃ r, decRecord f env1 safe n (enc v ++ rest) = .ok (restrict env1 (.ref n) v, r) := by
  induction f using Nat.strongRecOn generalizing n v with
  | ind f top =>
  obtain ⟨fs, rfl⟩ | ⟨fs, rfl⟩ | ⟨d, w, rfl⟩ := ref_cases h
  · obtain ⟨_, tys, hn', hn, hw⟩ := h
    cases hn'
    have hn1 := hx.get_struct hn
    simp only [TopStable, hn1] at hs
    obtain ⟨g, rfl, hg⟩ := fuel_record hf
    refine ⟨rest, ?_⟩
    rw [decRecord_struct hn1, enc, decFields_spec (ih _ (Nat.le_refl _)) fs tys rest hw hs (Nat.lt_succ_of_lt hg)]
    simp only [restrict, hn1]
    rfl
  · obtain ⟨_, fds2, hn', hn, hw, -⟩ := h
    cases hn'
    obtain ⟨fds, hn1, hd⟩ := hx.get_msg hn
    simp only [TopStable, StructsStable, hn1] at hs
    obtain ⟨g, rfl, hg⟩ := fuel_record hf
    obtain ⟨r, -, hloop⟩ := decMsgLoop_spec (ih g (Nat.le_succ g)) safe fs fds fds2 rest 0 []
      ((encFields fs ++ 0 :: rest).length + 1) (hE1 _ (List.mem_of_getElem? hn1)) hd hw hs nofun hg
      (Nat.lt_succ_of_le (Nat.le_trans (length_le_encFields fs) (List.length_append ▸ Nat.le_add_right _ _)))
    refine ⟨r, ?_⟩
    rw [decRecord_msg hn1, enc_msg, List.append_assoc, readN_append safe 4 _ _ (length_leBytes 4 _)]
    simp only [List.append_assoc, List.singleton_append, hloop, List.nil_append, Res.ok_bind, Res.pure_eq, restrict, hn1]
  · obtain ⟨_, brs, m, hn', hn, hd, hm, hw, -⟩ := h
    cases hn'
    have hn1 := hx.get_union hn
    simp only [TopStable] at hs
    rw [structsStable_union env1 w hn1 hm] at hs
    obtain ⟨g, rfl, hg⟩ := fuel_record hf
    obtain ⟨g, rfl⟩ := Nat.exists_eq_succ_of_ne_zero (Nat.ne_zero_of_lt hg)
    obtain ⟨r, hr⟩ := top g (Nat.lt_succ_of_lt (Nat.lt_succ_self g)) (fun m hm => ih m (Nat.le_succ_of_le (Nat.le_succ_of_le hm)))
      hw hs hg
    obtain ⟨r', hr', -⟩ := advance_enc hx hw safe rest
    refine ⟨r', ?_⟩
    rw [decRecord_union hn1, enc_union, List.append_assoc, readN_append safe 4 _ _ (length_leBytes 4 _)]
    simp only [List.cons_append, UInt8.toNat_ofNat_of_lt' hd, hm, dec_ref, hr, hr', Res.ok_bind, Res.pure_eq, restrict, hn1]

/-- The byte-slice decoders (checked and unchecked) of the older schema meet their specification at every
    fuel: a nested record is decoded (`decRecord_evo`), then the cursor moves behind it (`advance_enc`). -/
theorem dec_evo {env1 env2 : Env} (hE1 : EnvOk env1) (hx : Extends env1 env2) (f : Nat) :
    ∀ safe, DecSpec env1 env2 f (dec f env1 safe) := by
  induction f using Nat.strongRecOn with
  | ind f ih =>
  intro safe ty v rest h hs hf
  obtain ⟨f, rfl⟩ := Nat.exists_eq_succ_of_ne_zero (Nat.ne_zero_of_lt hf)
  have ihf := ih f (Nat.lt_succ_self f)
  have record : ∀ n, ty = .ref n → dec (f+1) env1 safe ty (enc v ++ rest) = .ok (restrict env1 ty v, rest) := by
    rintro n rfl
    obtain ⟨r, hr⟩ := decRecord_evo hE1 hx (fun m hm => ih m (Nat.lt_succ_of_le hm) safe) h (topStable_of_stable hs) hf rest
    obtain ⟨_, hr', he⟩ := advance_enc hx h safe rest
    cases he hs
    rw [dec_ref, hr]; exact hr'
  cases v with
  | scalar w n => exact dec_enc_fixed (fixedSize_of_wt_scalar h) h f env1 safe rest
  | str bs =>
      obtain ⟨rfl, hl⟩ := h
      simp only [dec, enc, restrict, List.append_assoc, readU32_append safe bs.length _ hl, readN_append safe _ bs rest rfl,
        Res.ok_bind, Res.pure_eq]
  | guid bs => exact dec_enc_fixed (s := 16) (by obtain ⟨rfl, _⟩ := h; rfl) h f env1 safe rest
  | arr vs =>
      obtain ⟨t, rfl, hl, hw, hp⟩ := h
      have hf := fuel_list hf
      simp only [dec, enc, restrict, List.append_assoc, readU32_append safe vs.length _ hl, Res.ok_bind]
      cases hfs : (if safe then fixedSize t else none) with
      | none => simp only [decN_spec (ihf safe) vs t rest hw hs hp hf, Res.ok_bind, Res.pure_eq]
      | some s =>
        have hs' : fixedSize t = some s := by
          cases safe <;> simp at hfs; exact hfs
        have hlen : ¬ (encList vs ++ rest).length < vs.length * s := by
          simp [length_encList, vsizeList_of_fixed env2 t s hs' vs hw]
        simp only [hlen, if_false, decN_spec (ihf false) vs t rest hw hs hp hf, Res.ok_bind, Res.pure_eq]
  | map kvs =>
      obtain ⟨k, t, rfl, hkt, hl, hw, hd⟩ := h
      simp only [dec, enc, restrict, List.append_assoc, readU32_append safe kvs.length _ hl, Res.ok_bind,
        decEntries_spec (ihf safe) kvs k t rest [] (fun _ => key_plain env1 hkt) hw hs (fuel_list hf),
        foldl_mapInsert_fresh k _ kvs [] hd nofun, restrictKVs_eq_map, List.nil_append, Res.pure_eq]
  | struct fs => obtain ⟨n, _, hn, _⟩ := h; exact record n hn
  | msg fs => obtain ⟨n, _, hn, _⟩ := h; exact record n hn
  | union d v => obtain ⟨n, _, _, hn, _⟩ := h; exact record n hn

/-! ### The loops of the decoder itself, and the top-level record -/

theorem decN_evo (env1 env2 : Env) (hE1 : EnvOk env1) (hx : Extends env1 env2) :
    (vs : List Val) → ∀ (t : Ty) (safe : Bool) (f : Nat) (rest : List Byte), wtList env2 t vs → stableList env1 t vs →
      Progress vs → rankList vs < f →
      decN (dec f env1 safe t) vs.length (encList vs ++ rest) = .ok (restrictList env1 t vs, rest) :=
  fun vs t safe f rest => decN_spec (dec_evo hE1 hx f safe) vs t rest

theorem decEntries_evo (env1 env2 : Env) (hE1 : EnvOk env1) (hx : Extends env1 env2) :
    (kvs : List (Val × Val)) → ∀ (k t : Ty) (safe : Bool) (f : Nat) (rest : List Byte) (acc : List (Val × Val)),
      isKeyTy k = true → wtKVs env2 k t kvs → stableKVs env1 t kvs → keysDistinct k kvs →
      (∀ a ∈ acc, ∀ kv ∈ kvs, keyEq k a.1 kv.1 = false) → rankKVs kvs < f →
      decEntries k (dec f env1 safe k) (dec f env1 safe t) kvs.length (encKVs kvs ++ rest) acc
        = .ok (acc ++ restrictKVs env1 t kvs, rest) :=
  fun kvs k t safe f rest acc hkt hw hs hd hacc hf => by
    rw [decEntries_spec (dec_evo hE1 hx f safe) kvs k t rest acc (fun _ => key_plain env1 hkt) hw hs hf,
      foldl_mapInsert_fresh k _ kvs acc hd hacc, restrictKVs_eq_map]

theorem decFields_evo (env1 env2 : Env) (hE1 : EnvOk env1) (hx : Extends env1 env2) :
    (fs : List Val) → ∀ (tys : List Ty) (safe : Bool) (f : Nat) (rest : List Byte), wtStruct env2 tys fs →
      stableStruct env1 tys fs → rankList fs < f →
      decFields (dec f env1 safe) tys (encList fs ++ rest) = .ok (restrictStruct env1 tys fs, rest) :=
  fun fs tys safe f rest => decFields_spec (dec_evo hE1 hx f safe) fs tys rest

theorem decMsgLoop_evo (env1 env2 : Env) (hE1 : EnvOk env1) (hx : Extends env1 env2) :
    (fs : List (Nat × Val)) → ∀ (fds fds2 : List MsgField) (safe : Bool) (f : Nat) (rest : List Byte) (lo : Nat)
      (acc : List (Nat × Val)) (n : Nat), DefOk (.msg fds) → DefExtends (.msg fds) (.msg fds2) →
      wtMsg env2 fds2 lo fs → stableFields env1 fds fs → (∀ a ∈ acc, a.1 ≤ lo) →
      rankFields fs < f → fs.length < n →
      ∃ r, decMsgLoop safe (dec f env1 safe) fds n (encFields fs ++ 0 :: rest) acc
        = .ok (acc ++ restrictFields env1 fds fs, r) :=
  fun fs fds fds2 safe f rest lo acc n hok hd hw hs hacc hf hn =>
    (decMsgLoop_spec (dec_evo hE1 hx f safe) safe fs fds fds2 rest lo acc n hok hd hw hs hacc hf hn).imp fun _ h => h.2

/-- The guard for a top-level record, from which `UnmarshalBebop` follows. -/
theorem unmarshal_evo (env1 env2 : Env) (hE1 : EnvOk env1) (hx : Extends env1 env2) (n : Nat) (v : Val) (safe : Bool)
    (f : Nat) (h : wt env2 (.ref n) v) (hs : TopStable env1 n v) (hf : rank v < f + 1) (rest : List Byte) :
    unmarshal f env1 safe n (enc v ++ rest) = .ok (restrict env1 (.ref n) v) := by
  obtain ⟨r, hr⟩ := decRecord_evo hE1 hx (fun m _ => dec_evo hE1 hx m safe) h hs hf rest
  rw [unmarshal_eq, hr]; rfl

end Bebop
