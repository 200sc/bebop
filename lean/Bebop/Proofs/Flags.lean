/-
  Integer literals and [flags] expressions against the Spec.
  Literals: Go's base-0 `ParseInt` / `ParseUint` (`parseInt`, `parseUint`) accept a literal exactly when the Spec's
  `litValue` gives it a value that fits the width, up to the guards `HasDigits`, `CanonicalLit`, `NoPlus`
  (`parseInt_iff`, `parseUint_iff`); both sides are first written as "magnitude, then sign" (`litValue_eq`,
  `parseInt_eq`).
  Flags: the width-typed evaluator of [flags] member expressions (`evalExpr`, the model of
  evaluateBitflagExpr) computes the value the Spec assigns (`specEval`, unbounded integers) whenever no
  intermediate value leaves the base type (`evalExpr_eq_specEval`); the `_guard_needed` examples show each guard
  fail without it.
-/
import Bebop.Text.Parser
import Bebop.Text.Grammar

namespace Bebop.Text

/-! ### literals -/

/-- The literal without its leading '-'. -/
def litBody (t : Str) : Str :=
  match t with
  | 0x2d :: r => r
  | _ => t

def litNeg (t : Str) : Bool :=
  match t with
  | 0x2d :: _ => true
  | _ => false

/-- Magnitude as the Spec reads it. -/
def litMag (body : Str) : Option Nat :=
  match body with
  | 0x30 :: x :: rest => if x == 0x78 || x == 0x58 then parseDigits 16 rest 0 else none
  | _ => parseDigits 10 body 0

def applySign (neg : Bool) (n : Nat) : Int := if neg then -(n : Int) else n

/-- Go's base-0 syntax needs at least one digit (after the `0x` prefix too); the Spec's `litValue`
    reads the empty digit string as 0. -/
def HasDigits (body : Str) : Prop := body ≠ [] ∧ ∀ x, body ≠ [0x30, x]

def CanonicalBody (body : Str) : Prop := ∀ x rest, body = 0x30 :: x :: rest → x = 0x78 ∨ x = 0x58

/-- No leading zero followed by more digits: Go's base-0 parse reads `010` as octal 8 (and knows `0b`,
    `0o`), the Spec's `litValue` does not. -/
def CanonicalLit (t : Str) : Prop := CanonicalBody (litBody t)

/-- The literal does not start with '+' (Go's ParseInt accepts a sign, the Spec has no `+`). -/
def NoPlus (t : Str) : Prop := ∀ r, t ≠ 0x2b :: r

@[simp] theorem litBody_nil : litBody [] = [] := rfl
@[simp] theorem litNeg_nil : litNeg [] = false := rfl
@[simp] theorem litBody_minus (r : Str) : litBody (0x2d :: r) = r := rfl
@[simp] theorem litNeg_minus (r : Str) : litNeg (0x2d :: r) = true := rfl

theorem litBody_of_not_minus {t : Str} (h : ∀ r, t ≠ 0x2d :: r) : litBody t = t := by
  unfold litBody; split
  · exact absurd rfl (h _)
  · rfl

theorem litNeg_of_not_minus {t : Str} (h : ∀ r, t ≠ 0x2d :: r) : litNeg t = false := by
  unfold litNeg; split
  · exact absurd rfl (h _)
  · rfl

/-- The one case split on a literal's first character: `-` and its body, or a text that is its own body
    (`litBody_of_not_minus`, `litNeg_of_not_minus`). -/
theorem lit_cases {motive : Str → Prop} (t : Str) (minus : ∀ r, motive (0x2d :: r))
    (other : ∀ t, (∀ r, t ≠ 0x2d :: r) → motive t) : motive t := by
  by_cases h : ∃ r, t = 0x2d :: r
  · obtain ⟨r, rfl⟩ := h; exact minus r
  · exact other t fun r hr => h ⟨r, hr⟩

/-- `litValue` once the sign is off. Its special case for `0` is redundant: `litMag [0x30] = some 0`. -/
theorem litValue_tail (neg : Bool) (body : Str) :
    (match body, litMag body with
      | [0x30], _ => some 0
      | _, some n => some (if neg then -(n : Int) else n)
      | _, none => none) = (litMag body).map (applySign neg) := by
  split
  · cases neg <;> rfl
  · rename_i h; rw [h]; rfl
  · rename_i h; rw [h]; rfl

theorem litValue_eq (t : Str) : litValue t = (litMag (litBody t)).map (applySign (litNeg t)) := by
  induction t using lit_cases with
  | minus r => exact litValue_tail true r
  | other t h =>
    rw [litBody_of_not_minus h, litNeg_of_not_minus h]
    unfold litValue
    -- the sign match of `litValue` takes its second branch
    rw [litValue.match_1.eq_2 _ _ _ _ h]
    exact litValue_tail false t

/-- A literal the Spec gives a value never starts with '+'. -/
theorem litValue_noPlus (t : Str) (v : Int) (h : litValue t = some v) : NoPlus t := by
  intro r ht
  subst ht
  rw [litValue_eq, litBody_of_not_minus (by simp)] at h
  simp [litMag, parseDigits, digitVal] at h

/-- A literal the Spec gives a value is canonical: `litValue` itself rejects `010`, `0b1`, `0o7`. -/
theorem litValue_canonical (t : Str) (v : Int) (h : litValue t = some v) : CanonicalLit t := by
  intro x rest hb
  rw [litValue_eq, hb] at h
  by_cases hx : (x == 0x78 || x == 0x58) = true
  · simpa using hx
  · simp [litMag, hx] at h

/-! ### ranges -/

theorem inRange_unsigned (bits : Nat) (v : Int) :
    inRange bits true v = true ↔ 0 ≤ v ∧ v < ((2 ^ bits : Nat) : Int) := by
  simp only [inRange, ↓reduceIte, Bool.and_eq_true, decide_eq_true_eq]

theorem inRange_signed (bits : Nat) (v : Int) :
    inRange bits false v = true ↔ -((2 ^ (bits - 1) : Nat) : Int) ≤ v ∧ v < ((2 ^ (bits - 1) : Nat) : Int) := by
  simp only [inRange, Bool.false_eq_true, ↓reduceIte, Bool.and_eq_true, decide_eq_true_eq]

theorem inRange_applySign (bits n : Nat) (neg : Bool) :
    inRange bits false (applySign neg n) = true ↔ if neg then n ≤ 2 ^ (bits - 1) else n < 2 ^ (bits - 1) := by
  have := Nat.two_pow_pos (bits - 1)
  rw [inRange_signed]
  cases neg <;> simp only [applySign, Bool.false_eq_true, ↓reduceIte] <;> omega

theorem emod_of_inRange_nonneg (bits : Nat) (unsigned : Bool) (a : Int) (h0 : 0 ≤ a)
    (h : inRange bits unsigned a = true) : a % ((2 ^ bits : Nat) : Int) = a := by
  have hm : 2 ^ (bits - 1) ≤ 2 ^ bits := Nat.pow_le_pow_right (by decide) (Nat.sub_le bits 1)
  cases unsigned with
  | true => rw [inRange_unsigned] at h; exact Int.emod_eq_of_lt h0 h.2
  | false => rw [inRange_signed] at h; exact Int.emod_eq_of_lt h0 (by omega)

/-- Go's conversion T(x) is the identity on values of T. -/
theorem wrapTo_of_inRange (bits : Nat) (unsigned : Bool) (v : Int) (hb : 0 < bits)
    (h : inRange bits unsigned v = true) : wrapTo bits unsigned v = v := by
  cases unsigned with
  | true => exact emod_of_inRange_nonneg bits true v ((inRange_unsigned bits v).1 h).1 h
  | false =>
    have hm := Nat.two_pow_pred_add_two_pow_pred hb
    have ⟨h1, h2⟩ := (inRange_signed bits v).1 h
    simp only [wrapTo, Bool.false_eq_true, ↓reduceIte]
    by_cases h0 : 0 ≤ v
    · rw [emod_of_inRange_nonneg bits false v h0 h, if_pos h2]
    · -- a negative value: `v % 2^bits = v + 2^bits`, which is at least `2^(bits-1)`
      rw [Int.emod_eq_add_self_emod, Int.emod_eq_of_lt (by omega) (by omega), if_neg (by omega)]
      omega

/-! ### Go's strconv against the Spec -/

/-- On canonical text Go's base-0 magnitude is the Spec's, except that Go wants a digit. -/
theorem parseMagnitude_eq_some (b : Str) (hc : CanonicalBody b) (n : Nat) :
    parseMagnitude b true = some n ↔ HasDigits b ∧ litMag b = some n := by
  unfold HasDigits litMag
  split
  · rename_i x rest
    have hx : (x == 0x78 || x == 0x58) = true := by simpa using hc x rest rfl
    simp [parseMagnitude, hx]
  · rename_i h
    cases b with
    | nil => simp [parseMagnitude]
    | cons c r =>
      have : ∀ x, c :: r ≠ [0x30, x] := fun x hx => h x [] hx
      simp [parseMagnitude, this]

/-- `parseInt` once the sign is off: the magnitude, signed, if it fits. -/
theorem parseInt_tail (neg : Bool) (o : Option Nat) (bits : Nat) :
    (match o with
      | some n =>
        if neg then (if n ≤ 2 ^ (bits - 1) then some (-(n : Int)) else none)
        else (if n < 2 ^ (bits - 1) then some (n : Int) else none)
      | none => none) = (o.map (applySign neg)).filter (inRange bits false) := by
  cases o with
  | none => rfl
  | some n =>
    simp only [Option.map_some, Option.filter_some, inRange_applySign]
    cases neg <;> rfl

theorem parseInt_eq (t : Str) (b : Bool) (bits : Nat) (hp : NoPlus t) :
    parseInt t b bits =
      ((parseMagnitude (litBody t) b).map (applySign (litNeg t))).filter (inRange bits false) := by
  induction t using lit_cases with
  | minus r => exact parseInt_tail true _ bits
  | other t h =>
    rw [litBody_of_not_minus h, litNeg_of_not_minus h]
    unfold parseInt
    -- the sign match of `parseInt` takes its third branch
    rw [parseInt.match_1.eq_3 _ _ _ _ _ h hp]
    exact parseInt_tail false _ bits

theorem parseUint_eq_some (t : Str) (b : Bool) (bits n : Nat) :
    parseUint t b bits = some n ↔
      NoPlus t ∧ litNeg t = false ∧ parseMagnitude (litBody t) b = some n ∧ n < 2 ^ bits := by
  unfold parseUint
  split
  · simp [NoPlus]
  · simp [litNeg]
  · rename_i hp hm
    have hp : NoPlus t := hp
    rw [litBody_of_not_minus hm, litNeg_of_not_minus hm]
    cases parseMagnitude t b with
    | none => simp
    | some m =>
      simp only [hp, Option.ite_none_right_eq_some, Option.some.injEq, true_and]
      exact ⟨by rintro ⟨h, rfl⟩; exact ⟨rfl, h⟩, by rintro ⟨rfl, h⟩; exact ⟨h, rfl⟩⟩

/-- ParseInt (base 0) accepts a canonical literal exactly when it has a digit and its Spec value fits, and
    then returns that value. -/
theorem parseInt_iff (t : Str) (bits : Nat) (v : Int) (hc : CanonicalLit t) (hp : NoPlus t) :
    parseInt t true bits = some v ↔
      HasDigits (litBody t) ∧ litValue t = some v ∧ inRange bits false v = true := by
  simp only [parseInt_eq t true bits hp, litValue_eq, Option.filter_eq_some_iff, Option.map_eq_some_iff,
    parseMagnitude_eq_some _ hc]
  exact ⟨fun ⟨⟨n, ⟨hd, hm⟩, hv⟩, hr⟩ => ⟨hd, ⟨n, hm, hv⟩, hr⟩, fun ⟨hd, ⟨n, hm, hv⟩, hr⟩ => ⟨⟨n, ⟨hd, hm⟩, hv⟩, hr⟩⟩

/-- ParseUint likewise; it also refuses '-' (so `-0`, which the Spec reads as 0). -/
theorem parseUint_iff (t : Str) (bits n : Nat) (hc : CanonicalLit t) :
    parseUint t true bits = some n ↔
      HasDigits (litBody t) ∧ litNeg t = false ∧ litValue t = some (n : Int) ∧ n < 2 ^ bits := by
  have hv : litNeg t = false → (litValue t = some (n : Int) ↔ litMag (litBody t) = some n) := by
    intro hn
    simp [litValue_eq, hn, applySign, Int.natCast_inj]
  rw [parseUint_eq_some, parseMagnitude_eq_some _ hc]
  exact ⟨fun ⟨_, hn, ⟨hd, hm⟩, hlt⟩ => ⟨hd, hn, (hv hn).2 hm, hlt⟩,
    fun ⟨hd, hn, h, hlt⟩ => ⟨litValue_noPlus t n h, hn, ⟨hd, (hv hn).1 h⟩, hlt⟩⟩

/-- The converse halves, as the evaluator uses them: Go accepts every literal with a digit whose Spec value
    fits, and returns that value. That the text is canonical and has no '+' follows from `litValue t` being
    defined. -/
theorem litValue_accepted (t : Str) (bits : Nat) (v : Int) (hd : HasDigits (litBody t)) (h : litValue t = some v) :
    (inRange bits false v = true → parseInt t true bits = some v) ∧
    (litNeg t = false → inRange bits true v = true → parseUint t true bits = some v.toNat) := by
  have hc := litValue_canonical t v h
  refine ⟨fun hr => (parseInt_iff t bits v hc (litValue_noPlus t v h)).2 ⟨hd, h, hr⟩, fun hn hr => ?_⟩
  have ⟨h0, hlt⟩ := (inRange_unsigned bits v).1 hr
  exact (parseUint_iff t bits v.toNat hc).2 ⟨hd, hn, by rw [Int.toNat_of_nonneg h0]; exact h, by omega⟩

/-! ### translation, guards -/

def opCode : TK → Nat
  | .vbar => 0
  | .amp => 1
  | .dblLeft => 2
  | .dblRight => 3
  | _ => 0

/-- The Spec expression a parsed expression stands for. -/
def toSpec : Expr → SrcExpr
  | .ident n => .ref n
  | .num t => .lit t
  | .paren e => .paren (toSpec e)
  | .bin op l r => .bin (opCode op) (toSpec l) (toSpec r)

/-- Every binary node carries one of the four operators (`parseExpr` produces nothing else). -/
def OpsOk : Expr → Prop
  | .ident _ => True
  | .num _ => True
  | .paren e => OpsOk e
  | .bin op l r => (op = .vbar ∨ op = .amp ∨ op = .dblLeft ∨ op = .dblRight) ∧ OpsOk l ∧ OpsOk r

/-- The Spec value is defined and fits the base type. -/
def ValOk (bits : Nat) (unsigned : Bool) (env : List (Str × Int)) (e : SrcExpr) : Prop :=
  ∃ v, specEval env e = some v ∧ inRange bits unsigned v = true

/-- Guards on a literal's text under which Go's strconv (base 0) accepts what the Spec's `litValue` gives a
    value: at least one digit (also after `0x`), and for an unsigned base type no '-' (ParseUint rejects
    `-0`).  That the text is canonical (no leading zero before more digits, so no octal / `0b` / `0o`) and
    does not start with '+' follows from `litValue t` being defined (`litValue_canonical`,
    `litValue_noPlus`). -/
def LitOk (unsigned : Bool) (t : Str) : Prop :=
  HasDigits (litBody t) ∧ (unsigned = true → litNeg t = false)

/-- No overflow anywhere: the Spec value of the expression and of every sub-expression is defined and in
    the base type's range; literals satisfy `LitOk`; the count of every shift is below the width (Go's
    shift by ≥ width gives 0 / the sign, the unbounded value is in general different). The Spec treats
    every operator code ≥ 2 other than 2 as `>>`, hence `2 ≤ op`. -/
def AllInRange (bits : Nat) (unsigned : Bool) (env : List (Str × Int)) : SrcExpr → Prop
  | .lit t => LitOk unsigned t ∧ ValOk bits unsigned env (.lit t)
  | .ref n => ValOk bits unsigned env (.ref n)
  | .paren e => AllInRange bits unsigned env e
  | .bin op l r =>
    AllInRange bits unsigned env l ∧ AllInRange bits unsigned env r ∧
    ValOk bits unsigned env (.bin op l r) ∧
    (2 ≤ op → ∀ c, specEval env r = some c → c < (bits : Int))

/-- The stored value of an earlier member, as `evalExpr` reads it. -/
def optValue (unsigned : Bool) (o : EnumOption) : Int := if unsigned then (o.uvalue : Int) else o.value

/-- The parser's list of earlier members and the Spec's environment give every name the same value
    (both sides look up the first match). -/
def EnvAgrees (unsigned : Bool) (opts : List EnumOption) (env : List (Str × Int)) : Prop :=
  ∀ n, (opts.find? (fun o => o.name == n)).map (optValue unsigned) = (env.find? (·.1 == n)).map (·.2)

/-- Position-wise agreement (what the enum reader maintains). -/
def EnvMatches (unsigned : Bool) : List EnumOption → List (Str × Int) → Prop
  | [], [] => True
  | o :: os, p :: ps => o.name = p.1 ∧ optValue unsigned o = p.2 ∧ EnvMatches unsigned os ps
  | _, _ => False

theorem envAgrees_of_matches (unsigned : Bool) :
    ∀ (opts : List EnumOption) (env : List (Str × Int)), EnvMatches unsigned opts env →
      EnvAgrees unsigned opts env := by
  intro opts env
  fun_induction EnvMatches unsigned opts env with
  | case1 => exact fun _ _ => rfl
  | case2 o os p ps ih =>
    intro ⟨h1, h2, h3⟩ n
    simp only [List.find?_cons, h1]
    cases (p.1 == n) with
    | true => exact congrArg some h2
    | false => exact ih h3 n
  | case3 => exact False.elim

theorem allInRange_valOk (bits : Nat) (unsigned : Bool) (env : List (Str × Int)) :
    ∀ e, AllInRange bits unsigned env e → ValOk bits unsigned env e
  | .lit _, h => h.2
  | .ref _, h => h
  | .paren e, h => allInRange_valOk bits unsigned env e h
  | .bin _ _ _, h => h.2.2.1

/-! ### the evaluator computes the Spec value -/

/-- `|` and `&` on non-negative operands of the base type: reducing modulo 2^bits and converting back
    change nothing. -/
theorem bitwise_of_inRange (f : Nat → Nat → Nat) {bits : Nat} {unsigned : Bool} (hb : 0 < bits) {a c : Int}
    (h0a : 0 ≤ a) (h0c : 0 ≤ c) (hina : inRange bits unsigned a = true) (hinc : inRange bits unsigned c = true)
    (hin : inRange bits unsigned (Int.ofNat (f a.toNat c.toNat)) = true) :
    wrapTo bits unsigned
      (Int.ofNat (f (a % ((2 ^ bits : Nat) : Int)).toNat (c % ((2 ^ bits : Nat) : Int)).toNat)) =
      Int.ofNat (f a.toNat c.toNat) := by
  rw [emod_of_inRange_nonneg bits unsigned a h0a hina, emod_of_inRange_nonneg bits unsigned c h0c hinc,
    wrapTo_of_inRange bits unsigned _ hb hin]

/-- A left shift whose unbounded value fits passes the evaluator's shift-back and sign checks. -/
theorem evalExpr_shl {bits : Nat} {unsigned : Bool} {opts : List EnumOption} {l r : Expr} {a c : Int}
    (hb : 0 < bits) (hl : evalExpr bits unsigned opts l = some a) (hr : evalExpr bits unsigned opts r = some c)
    (h0 : 0 ≤ c) (hlt : c < (bits : Int))
    (hin : inRange bits unsigned (a * ((2 ^ c.toNat : Nat) : Int)) = true) :
    evalExpr bits unsigned opts (.bin .dblLeft l r) = some (a * ((2 ^ c.toNat : Nat) : Int)) := by
  have h1 : ¬ (c.toNat ≥ bits) := by omega
  have hp : (0 : Int) < ((2 ^ c.toNat : Nat) : Int) := Int.natCast_pos.2 (Nat.two_pow_pos _)
  have hsign : (a * ((2 ^ c.toNat : Nat) : Int) < 0 ↔ a < 0) := by
    rw [← Int.not_le, ← Int.not_le, Int.mul_nonneg_iff_of_pos_right hp]
  simp only [evalExpr, hl, hr, Int.not_lt.2 h0, h1, ↓reduceIte, wrapTo_of_inRange bits unsigned _ hb hin,
    Int.mul_ediv_cancel a (Int.ne_of_gt hp), hsign]
  simp

theorem evalExpr_eq_specEval (bits : Nat) (unsigned : Bool) (hpos : 0 < bits)
    (opts : List EnumOption) (env : List (Str × Int)) (ha : EnvAgrees unsigned opts env) :
    ∀ e, OpsOk e → AllInRange bits unsigned env (toSpec e) →
      evalExpr bits unsigned opts e = specEval env (toSpec e) := by
  intro e
  induction e with
  | ident n =>
    intro _ ⟨v, hv, hin⟩
    rw [toSpec, hv]
    obtain ⟨o, ho, rfl⟩ := Option.map_eq_some_iff.1 ((ha n).trans hv)
    simp only [evalExpr, ho]
    exact congrArg some (wrapTo_of_inRange bits unsigned _ hpos hin)
  | num t =>
    intro _ ⟨⟨hd, hn⟩, v, hv, hin⟩
    rw [toSpec, hv]
    have ⟨hs, hu⟩ := litValue_accepted t bits v hd hv
    cases unsigned with
    | true =>
      have h0 := ((inRange_unsigned bits v).1 hin).1
      simp [evalExpr, hu (hn rfl) hin, Int.toNat_of_nonneg h0, wrapTo_of_inRange bits true _ hpos hin]
    | false =>
      simp only [evalExpr, Bool.false_eq_true, ↓reduceIte, hs hin, Option.map_some,
        wrapTo_of_inRange bits false _ hpos hin]
  | paren e ih => exact ih
  | bin op l r ihl ihr =>
    intro ⟨hop, hol, hor⟩ ⟨hrl, hrr, ⟨v, hv, hin⟩, hsh⟩
    obtain ⟨a, hsa, hina⟩ := allInRange_valOk _ _ _ _ hrl
    obtain ⟨c, hsc, hinc⟩ := allInRange_valOk _ _ _ _ hrr
    have hea := (ihl hol hrl).trans hsa
    have hec := (ihr hor hrr).trans hsc
    rw [toSpec, hv]
    rcases hop with rfl | rfl | rfl | rfl <;>
      simp only [specEval, hsa, hsc, opCode, Nat.reduceBEq, beq_self_eq_true, Bool.false_eq_true, ↓reduceIte,
        Option.ite_none_left_eq_some, Option.some.injEq, Bool.or_eq_true, decide_eq_true_eq, not_or,
        Int.not_lt] at hv
    · obtain ⟨⟨h0a, h0c⟩, rfl⟩ := hv
      simp only [evalExpr, hea, hec]
      exact congrArg some (bitwise_of_inRange Nat.lor hpos h0a h0c hina hinc hin)
    · obtain ⟨⟨h0a, h0c⟩, rfl⟩ := hv
      simp only [evalExpr, hea, hec]
      exact congrArg some (bitwise_of_inRange Nat.land hpos h0a h0c hina hinc hin)
    · obtain ⟨h0, rfl⟩ := hv
      exact evalExpr_shl hpos hea hec h0 (hsh (by decide) c hsc) hin
    · obtain ⟨h0, rfl⟩ := hv
      have h1 : ¬ (c.toNat ≥ bits) := by have := hsh (by decide) c hsc; omega
      simp only [evalExpr, hea, hec, Int.not_lt.2 h0, h1, ↓reduceIte]

/-! ### the guards matter -/

/-- Shift count ≥ width: the evaluator rejects (it wrapped to 0 before the repair), the unbounded value is 2^40. -/
theorem shift_guard_needed :
    evalExpr 32 true [] (.bin .dblLeft (.num (strOf "1")) (.num (strOf "40"))) = none ∧
    specEval [] (toSpec (.bin .dblLeft (.num (strOf "1")) (.num (strOf "40")))) = some (2 ^ 40) := by
  decide

/-- A sub-expression out of range although the whole is in range: uint8 `(255 << 4) >> 4` is rejected
    (it evaluated to 15 before the repair). -/
theorem inner_range_needed :
    evalExpr 8 true [] (.bin .dblRight (.paren (.bin .dblLeft (.num (strOf "255")) (.num (strOf "4")))) (.num (strOf "4"))) = none ∧
    specEval [] (toSpec (.bin .dblRight (.paren (.bin .dblLeft (.num (strOf "255")) (.num (strOf "4")))) (.num (strOf "4")))) = some 255 := by
  decide

/-- Leading zero: Go reads octal, the Spec gives no value (so `parseUint_iff` needs `CanonicalLit`;
    the main theorem does not, see `litValue_canonical`). -/
theorem canonical_guard_needed :
    evalExpr 32 true [] (.num (strOf "010")) = some 8 ∧ specEval [] (toSpec (.num (strOf "010"))) = none := by
  decide

/-- `0x` without digits: Go rejects, `litValue` reads 0. -/
theorem digits_guard_needed :
    evalExpr 32 true [] (.num (strOf "0x")) = none ∧ specEval [] (toSpec (.num (strOf "0x"))) = some 0 := by
  decide

/-- `-0` in an unsigned enum: ParseUint rejects, `litValue` reads 0. -/
theorem minus_guard_needed :
    evalExpr 32 true [] (.num (strOf "-0")) = none ∧ specEval [] (toSpec (.num (strOf "-0"))) = some 0 := by
  decide

theorem parseExpr_opsOk : ∀ (f : Nat) (toks : List Token) (e : Expr), parseExpr f toks = some e → OpsOk e := by
  intro f
  induction f with
  | zero => intro toks e h; cases h
  | succ f ih =>
    intro toks e h
    unfold parseExpr at h
    split at h
    · cases h
    · simp only at h
      split at h
      · cases h
      · rename_i lhs i0 hl
        have hlhs : OpsOk lhs := by
          split at hl
          · cases hl; trivial
          · cases hl; trivial
          · split at hl
            · rename_i inner hi
              cases hl; exact ih _ inner hi
            · cases hl
          · cases hl
        split at h
        · cases h; exact hlhs
        · split at h
          · cases h; exact hlhs
          · split at h
            · rename_i hop
              split at h
              · cases h
                refine ⟨?_, hlhs, ih _ _ ‹_›⟩
                simp only [Bool.or_eq_true, beq_iff_eq] at hop
                rcases hop with ((h | h) | h) | h <;> simp [h]
              · cases h
            · cases h
end Bebop.Text
