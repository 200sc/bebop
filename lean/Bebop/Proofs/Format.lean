/-
  Termination of the formatter model (`Bebop.Text.format`), for every input.

  format.go at the pinned commit does not terminate on every input, and this proof is what found it:
    "struct A { map"   : formatType recurses for ever on the stale `map` token at the end of the input
                         (`fatal error: stack overflow`)
    "struct A { int32" : the `for tr.Next()` loop of formatStruct never ends — Next fails twice, UnNext, Next
                         succeeds with the stale identifier — while structBytes grows
  Both are repaired in /repo (fc00d35: formatType checks the `Next` in front of its recursive calls, formatStruct
  the `Next` behind the `;`); the model is of the repaired code, its loops answer `none` at fuel 0, and this file
  proves

  * `format_total`       — `(format inp).isSome` for every `inp`;
  * `format_fuel_stable` — one result for every fuel `F ≥ 2 * |inp| + 4`: no loop of the formatter (the
    top-level one, formatType's recursion and `[]` loop, optValue, the enum / struct / message / union body
    loops) ever runs out of fuel.

  The argument is the tokenizer measure `mu` (TokenizerProgress): every loop iteration starts with a `Next`
  that returned true, which lowers `mu`; the fixed-count `Next`s never raise it; the only thing that raises it
  is an `UnNext` after a `Next` that consumed nothing, and everywhere this can happen (the `[]` loop of
  formatType) the caller issues a `Next` (clearing `keep` again) before the loop comes round.

  Every function that takes fuel gets one statement, `Same Q (g F …) (g F' …)`: run with two fuels that are
  large enough (above `mu t + 1`) it returns, both times the same, a result with `Q`.  The induction on the fuel is done once
  (`Same.of_counter`, and `Same.of_next_loop` for the loops of the form `for tr.Next() { … }`); what is proved
  per loop is one round, given that the later rounds agree.  A round follows the model's code: the loop is
  unfolded on both sides, `split` takes the `match` on the token kind apart on both sides at once (goal `h_i`
  for its `i`-th alternative; `cases` on `TK` would make forty goals), and what the model binds by
  `let (a, t') := …` is spoken of as `(…).1`, `(…).2`.
-/
import Bebop.Text.Format
import Bebop.Proofs.TokenizerProgress

namespace Bebop.Text

/-- One or more `Next` calls: `keep` is clear, no input was given back. -/
structure Adv (t t' : TR) : Prop where
  keep : t'.keep = false
  len : t'.inp.length ≤ t.inp.length

theorem Adv.trans {a b c : TR} (h1 : Adv a b) (h2 : Adv b c) : Adv a c :=
  ⟨h2.keep, Nat.le_trans h2.len h1.len⟩

/-- So the measure did not go up, whether or not `keep` was set before. -/
theorem Adv.le {t t' : TR} (h : Adv t t') : mu t' ≤ mu t := by
  rw [mu_keep_false h.keep]; exact Nat.le_trans (Nat.mul_le_mul_left 2 h.len) (le_mu t)

theorem adv_next (t : TR) : Adv t (next t).2 := ⟨next_keep t, next_len_le t⟩

/-- One `Next`, from the equation that `split` leaves for a `match next t with …`. -/
theorem next_eq {t t1 : TR} {ok : Bool} (h : next t = (ok, t1)) : Adv t t1 ∧ (ok = true → mu t1 < mu t) ∧
    (ok = true → t.keep = false → mu { t1 with keep := true } < mu t) := by
  obtain rfl : (next t).1 = ok := congrArg Prod.fst h
  obtain rfl : (next t).2 = t1 := congrArg Prod.snd h
  exact ⟨adv_next t, (next_measure t).2, fun h hk => unNext_after_next t hk h⟩

theorem adv_nextConc (t : TR) : Adv t (nextConc t).2 := adv_next t

theorem adv_takeToks (sep : List Byte) (k : Nat) : ∀ (t : TR) (acc : List Byte), (k = 0 → t.keep = false) →
    Adv t (takeToks sep k t acc).2 := by
  induction k with
  | zero => exact fun _ _ h => ⟨h rfl, Nat.le_refl _⟩
  | succ k ih => exact fun t _ _ => (adv_next t).trans (ih _ _ fun _ => next_keep t)

-- (`dsimp only` turns the model's `let (a, t1) := …` into projections; without it `exact` unfolds `takeToks`.)
theorem adv_fmtAttr (pre : List Byte) (t : TR) : Adv t (fmtAttr pre t).2 := by
  unfold fmtAttr
  dsimp only
  exact adv_takeToks [] 5 t _ nofun

theorem adv_formatConst (t : TR) : Adv t (formatConst t).2 := by
  unfold formatConst
  dsimp only
  exact (adv_takeToks [32] 4 t _ nofun).trans (adv_next _)

/-! ## One result for every fuel -/

/-- Two runs of a function — with two fuels — end with the same result, and it satisfies `Q`. -/
def Same {ρ} (Q : ρ → Prop) (o o' : Option ρ) : Prop := ∃ r, o = some r ∧ o' = some r ∧ Q r

/-- `L` and `L'` (one loop of the model, given two fuels for its nested loops) are total from every state at or below
    `N`, whenever their counters exceed `mu t + 1`, and agree; what `Q` claims of the result is relative to the state
    the loop was entered in. -/
def SameLoop {β ρ} (N : Nat) (Q : TR → ρ → Prop) (L L' : Nat → TR → β → Option ρ) : Prop :=
  ∀ f f' t b, mu t ≤ N → mu t + 1 < f → mu t + 1 < f' → Same (Q t) (L f t b) (L' f' t b)

namespace Same
section
variable {ρ : Type _} {Q : ρ → Prop}

theorem refl {r : ρ} (h : Q r) : Same Q (some r) (some r) := ⟨r, rfl, rfl, h⟩

theorem imp {Q' : ρ → Prop} {o o' : Option ρ} (h : Same Q o o') (hq : ∀ r, Q r → Q' r) : Same Q' o o' :=
  Exists.imp (fun r => And.imp_right (And.imp_right (hq r))) h

theorem ite {c : Prop} [Decidable c] {a a' b b' : Option ρ} (h1 : c → Same Q a a') (h2 : ¬c → Same Q b b') :
    Same Q (if c then a else b) (if c then a' else b') := by
  by_cases h : c
  · rw [if_pos h, if_pos h]; exact h1 h
  · rw [if_neg h, if_neg h]; exact h2 h

/-- Going on after a nested loop: whatever is to be shown of the two runs `o` and `o'` (in the goal they are
    abstracted, as for an eliminator) is shown of the one result they have. -/
@[elab_as_elim] theorem elim {motive : Option ρ → Option ρ → Prop} {o o' : Option ρ} (h : Same Q o o')
    (hk : ∀ r, Q r → motive (some r) (some r)) : motive o o' := by
  obtain ⟨r, rfl, rfl, hq⟩ := h
  exact hk r hq

end

/-- `two_fuels` for `Same`: `L` and `L'` are the loop with whatever else it is given (the fuel it hands to nested
    loops, say; `b` is its accumulator), `Q t` what the result owes to the entry state `t` — which is passed back from
    a later round's entry state to this one's by `hQ`. -/
theorem of_counter {β ρ} (m : TR → Nat) (P : TR → Prop) {Q : TR → ρ → Prop} {L L' : Nat → TR → β → Option ρ}
    (hQ : ∀ t t2 r, m t2 ≤ m t → Q t2 r → Q t r)
    (step : ∀ f f' t b, P t → m t < f + 1 → m t < f' + 1 →
      (∀ t2 b2, P t2 → m t2 < m t → Same (Q t) (L f t2 b2) (L' f' t2 b2)) → Same (Q t) (L (f+1) t b) (L' (f'+1) t b))
    (f f' : Nat) (t : TR) (b : β) : P t → m t < f → m t < f' → Same (Q t) (L f t b) (L' f' t b) :=
  two_fuels (σ := TR ×' β) (m ·.1) (P ·.1) (fun s => Same (Q s.1)) (L := fun f s => L f s.1 s.2) (L' := fun f s => L' f s.1 s.2)
    (fun f f' s hP h h' again => step f f' s.1 s.2 hP h h' fun t2 b2 hP2 h2 =>
      (again ⟨t2, b2⟩ hP2 h2).imp fun _ => hQ _ _ _ (Nat.le_of_lt h2)) f f' ⟨t, b⟩

/-- `of_counter` for a `for tr.Next() { … }` loop, started at or below a bound `N` (which stands for the fuel of
    the nested loops): a round is given the outcome of the `Next` at its head, which lowers `mu` when it returns true. -/
theorem of_next_loop {β ρ} {N : Nat} {Q : TR → ρ → Prop} {L L' : Nat → TR → β → Option ρ}
    (hQ : ∀ t t2 r, mu t2 ≤ mu t → Q t2 r → Q t r)
    (round : ∀ f f' t b ok t1, next t = (ok, t1) → Adv t t1 → mu t1 ≤ N →
      (ok = true → ∀ t2 b2, mu t2 ≤ mu t1 → Same (Q t) (L f t2 b2) (L' f' t2 b2)) →
      Same (Q t) (L (f+1) t b) (L' (f'+1) t b)) : SameLoop N Q L L' :=
  of_counter (mu · + 1) (mu · ≤ N) (fun _ _ _ h => hQ _ _ _ (Nat.le_of_succ_le_succ h)) fun f f' t b hN _ _ again =>
    have hN1 := Nat.le_trans (adv_next t).le hN
    round f f' t b _ _ rfl (adv_next t) hN1 fun h t2 b2 h2 =>
      again t2 b2 (Nat.le_trans h2 hN1) (Nat.succ_lt_succ (Nat.lt_of_le_of_lt h2 ((next_measure t).2 h)))

end Same

abbrev NoBack (t : TR) (r : List Byte × TR) : Prop := r.2.inp.length ≤ t.inp.length
abbrev NoRise (t : TR) (r : List Byte × TR) : Prop := mu r.2 ≤ mu t

theorem NoRise.mono (t t2 : TR) (r : List Byte × TR) (h : mu t2 ≤ mu t) (hr : NoRise t2 r) : NoRise t r :=
  Nat.le_trans hr h

theorem NoBack.mono (t t2 : TR) (r : List Byte × TR) (h : mu t2 ≤ mu t) (hr : NoBack t2 r) : NoBack t r := by
  have := le_mu t2; have := mu_le t; exact Nat.le_trans hr (by omega)

/-- After a result with `keep` possibly set, the caller's next `Next` is where `Adv` holds again. -/
theorem NoBack.adv {t t' : TR} {r : List Byte × TR} (h : NoBack t r) (h' : Adv r.2 t') : Adv t t' :=
  ⟨h'.keep, Nat.le_trans h'.len h⟩

/-! ## formatType -/

/-- (`keep` may be set in the result: the `[]` loop always ends with `UnNext`, possibly after a `Next` that
    consumed nothing.) -/
theorem arrSuffix_same : ∀ (f f' : Nat) (t : TR) (bs : List Byte), mu t < f → mu t < f' →
    Same (NoBack t) (formatType.arrSuffix f t bs) (formatType.arrSuffix f' t bs) := fun f f' t bs =>
  Same.of_counter mu (fun _ => True) NoBack.mono (fun f f' t bs _ _ _ again => by
    rw [formatType.arrSuffix, formatType.arrSuffix]
    dsimp only
    exact .ite (fun hc => again _ _ trivial (Nat.lt_of_le_of_lt (adv_next _).le
      ((next_measure t).2 (Bool.and_eq_true_iff.1 hc).1))) fun _ => .refl (adv_next t).len) f f' t bs trivial

/-- The end of `formatType`: the early return as it is, otherwise the `[]` loop. -/
theorem typeTail_same {f f' : Nat} {t : TR} (hf : mu t < f) (hf' : mu t < f')
    {o o' : Option ((List Byte × TR) ⊕ (List Byte × TR))}
    (h : Same (Sum.elim (NoBack t) fun r => mu r.2 ≤ mu t) o o') :
    Same (NoBack t)
      (match (generalizing := false) o with
        | none => none | some (.inl r) => some r | some (.inr (bs, t1)) => formatType.arrSuffix f t1 bs)
      (match (generalizing := false) o' with
        | none => none | some (.inl r) => some r | some (.inr (bs, t1)) => formatType.arrSuffix f' t1 bs) := by
  obtain ⟨s, rfl, rfl, hs⟩ := h
  rcases s with r | ⟨bs, t1⟩
  · exact .refl hs
  · exact (arrSuffix_same f f' t1 bs (Nat.lt_of_le_of_lt hs hf) (Nat.lt_of_le_of_lt hs hf')).imp fun _ =>
      NoBack.mono _ _ _ hs

theorem formatType_same : ∀ (f f' : Nat) (t : TR), mu t + 1 < f → mu t + 1 < f' →
    Same (NoBack t) (formatType f t) (formatType f' t) := fun f f' t =>
  Same.of_counter (L := fun f t (_ : Unit) => formatType f t) (L' := fun f t _ => formatType f t) (Q := NoBack)
    (mu · + 1) (fun _ => True) (fun _ _ _ h => NoBack.mono _ _ _ (Nat.le_of_succ_le_succ h))
    (fun f f' t _ _ hf hf' again => by
      have a1 : ∀ k, Adv t (takeToks [] (k+1) t t.nextTok.concrete).2 := fun k => adv_takeToks [] _ t _ nofun
      rw [formatType, formatType]
      refine typeTail_same (Nat.lt_of_succ_lt_succ hf) (Nat.lt_of_succ_lt_succ hf') ?_
      dsimp only
      split
      · exact .refl (Nat.le_refl _)
      case h_2 | h_3 =>
        -- `map` and `array`: they differ in the number of tokens taken first and in the glue
        split
        next t2 h2 => exact .refl ((a1 _).trans (next_eq h2).1).len   -- the input ends inside the type: early return
        next t2 h2 =>
          obtain ⟨_, hlt, _⟩ := next_eq h2
          exact (again t2 () trivial (Nat.succ_lt_succ (Nat.lt_of_lt_of_le (hlt rfl) (a1 _).le))).elim fun r h3 =>
            .refl (h3.adv (adv_nextConc r.2)).le
      · exact .refl (Nat.le_refl _)) f f' t () trivial

/-! ## The nested loops -/

theorem optValue_same (f f' : Nat) (t : TR) (prev : TK) (acc : List Byte) (hf : mu t + 1 < f) (hf' : mu t + 1 < f') :
    formatEnum.optValue f t prev acc = formatEnum.optValue f' t prev acc ∧
    mu (formatEnum.optValue f t prev acc).2 ≤ mu t :=
  two_fuels (mu · + 1) (fun _ => True) (fun t r r' => ∀ prev acc, r prev acc = r' prev acc ∧ mu (r prev acc).2 ≤ mu t)
    (L := formatEnum.optValue) (L' := formatEnum.optValue) (fun f f' t _ _ _ again prev acc => by
      rw [formatEnum.optValue, formatEnum.optValue]
      split
      next t1 h => exact ⟨rfl, (next_eq h).1.le⟩
      next t1 h =>
        obtain ⟨a1, hlt, _⟩ := next_eq h
        dsimp only
        by_cases hc : (t1.nextTok.kind == TK.semicolon) = true
        · rw [if_pos hc, if_pos hc]
          exact ⟨rfl, a1.le⟩
        · rw [if_neg hc, if_neg hc]
          have ih := again t1 trivial (Nat.succ_lt_succ (hlt rfl)) t1.nextTok.kind
          exact ⟨(ih _).1, Nat.le_trans (ih _).2 a1.le⟩) f f' t trivial hf hf' prev acc

theorem lt_fuel {N F : Nat} (hF : N + 1 < F) {t : TR} (h : mu t ≤ N) : mu t + 1 < F :=
  Nat.lt_of_le_of_lt (Nat.succ_le_succ h) hF

section
variable {F F' N : Nat} (hF : N + 1 < F) (hF' : N + 1 < F')
include hF hF'

/-- A body loop begun, anywhere behind `t`, with the fuel for nested loops as its counter. -/
theorem start_same {L L' : Nat → TR → List Byte → Option (List Byte × TR)} (hL : SameLoop N NoRise L L')
    {t t1 : TR} (hN : mu t ≤ N) (h1 : mu t1 ≤ mu t) (acc : List Byte) : Same (NoRise t) (L F t1 acc) (L' F' t1 acc) :=
  have hN1 := Nat.le_trans h1 hN
  (hL F F' t1 acc hN1 (lt_fuel hF hN1) (lt_fuel hF' hN1)).imp fun _ hr => Nat.le_trans hr h1

theorem enumLoop_same : SameLoop N NoRise (formatEnum.loop F) (formatEnum.loop F') :=
  Same.of_next_loop NoRise.mono fun f f' t acc ok t1 hn a1 hN1 again => by
    rw [formatEnum.loop, formatEnum.loop, hn]
    cases ok
    · exact .refl a1.le
    have again := again rfl
    dsimp only
    split
    case h_1 | h_2 | h_6 => exact again t1 _ (Nat.le_refl _)   -- a comment, anything else: on to the next token
    · exact again _ _ (adv_fmtAttr [9] t1).le
    · obtain ⟨e, hle⟩ := optValue_same F F' t1 t1.nextTok.kind ([9] ++ t1.nextTok.concrete) (lt_fuel hF hN1) (lt_fuel hF' hN1)
      rw [← e]
      exact again _ _ hle
    · exact .refl a1.le

theorem formatEnum_same (t : TR) (hN : mu t ≤ N) : Same (NoRise t) (formatEnum F t) (formatEnum F' t) := by
  unfold formatEnum
  dsimp only
  have a1 := adv_takeToks [32] 2 t t.nextTok.concrete nofun
  exact start_same hF hF' (enumLoop_same hF hF') hN
    (iteInduction (motive := fun p : List Byte × TR => mu p.2 ≤ mu t) (fun _ => (a1.trans (adv_takeToks [32] 2 _ _ nofun)).le)
      fun _ => a1.le) _

theorem structLoop_same (pre : List Byte) : SameLoop N NoRise (formatStruct.loop F pre) (formatStruct.loop F' pre) :=
  Same.of_next_loop NoRise.mono fun f f' t acc ok t1 hn a1 hN1 again => by
    -- a field: type, name, `;`, then a `Next` that looks for a comment on the same line (the type first: three
    -- kinds of token start a field, and `r` is what `formatType` returns in all three)
    obtain ⟨r, e, e', h2⟩ := formatType_same F F' t1 (lt_fuel hF hN1) (lt_fuel hF' hN1)
    have a4 := h2.adv ((adv_nextConc r.2).trans (adv_next _))
    rw [formatStruct.loop, formatStruct.loop, hn]
    cases ok
    · exact .refl a1.le
    have again := again rfl
    simp only [e, e']
    split
    case h_1 | h_2 | h_8 => exact again t1 _ (Nat.le_refl _)
    · exact again _ _ (adv_fmtAttr pre t1).le
    case h_4 | h_5 | h_6 =>
      split
      next t5 h5 => exact .refl (Nat.le_trans (a4.trans (next_eq h5).1).le a1.le)   -- the input ends after the field: break
      next t5 h5 =>
        obtain ⟨a5, _, hun⟩ := next_eq h5
        exact .ite (fun _ => again t5 _ (a4.trans a5).le) fun _ =>
          again _ _ (Nat.le_trans (Nat.le_of_lt (hun rfl a4.keep)) a4.le)
    · exact .refl a1.le

theorem formatStruct_same (t : TR) (hN : mu t ≤ N) (ro : Bool) (pre : List Byte) :
    Same (NoRise t) (formatStruct F t ro pre) (formatStruct F' t ro pre) := by
  unfold formatStruct
  dsimp only
  exact start_same hF hF' (structLoop_same hF hF' pre) hN (adv_takeToks [32] 2 t _ nofun).le _

theorem messageLoop_same (pre : List Byte) : SameLoop N NoRise (formatMessage.loop F pre) (formatMessage.loop F' pre) :=
  Same.of_next_loop NoRise.mono fun f f' t acc ok t1 hn a1 hN1 again => by
    rw [formatMessage.loop, formatMessage.loop, hn]
    cases ok
    · exact .refl a1.le
    have again := again rfl
    dsimp only
    split
    case h_1 | h_2 | h_6 => exact again t1 _ (Nat.le_refl _)
    · exact again _ _ (adv_fmtAttr pre t1).le
    · -- index, `->`, type, name, `;`
      have a3 := (adv_nextConc t1).trans (adv_next _)
      have hN3 := Nat.le_trans a3.le hN1
      exact (formatType_same F F' _ (lt_fuel hF hN3) (lt_fuel hF' hN3)).elim fun r h4 =>
        again _ _ (a3.trans (h4.adv ((adv_nextConc r.2).trans (adv_next _)))).le
    · exact .refl a1.le

theorem formatMessage_same (t : TR) (hN : mu t ≤ N) (pre : List Byte) :
    Same (NoRise t) (formatMessage F t pre) (formatMessage F' t pre) := by
  unfold formatMessage
  dsimp only
  exact start_same hF hF' (messageLoop_same hF hF' pre) hN (adv_takeToks [32] 2 t _ nofun).le _

theorem unionLoop_same (pre : List Byte) : SameLoop N NoRise (formatUnion.loop F pre) (formatUnion.loop F' pre) :=
  Same.of_next_loop NoRise.mono fun f f' t acc ok t1 hn a1 hN1 again => by
    rw [formatUnion.loop, formatUnion.loop, hn]
    cases ok
    · exact .refl a1.le
    have again := again rfl
    dsimp only
    split
    case h_1 | h_2 | h_6 => exact again t1 _ (Nat.le_refl _)
    · exact again _ _ (adv_fmtAttr pre t1).le
    · -- index, `->`, then a message or a struct
      have hle3 := ((adv_nextConc t1).trans (adv_next _)).le
      have hN3 := Nat.le_trans hle3 hN1
      split
      · exact (formatMessage_same hF hF' _ hN3 _).elim fun r h4 => again r.2 _ (Nat.le_trans h4 hle3)
      · exact (formatStruct_same hF hF' _ hN3 _ _).elim fun r h4 => again r.2 _ (Nat.le_trans h4 hle3)
      · exact again _ _ hle3
    · exact .refl a1.le

theorem formatUnion_same (t : TR) (hN : mu t ≤ N) (pre : List Byte) :
    Same (NoRise t) (formatUnion F t pre) (formatUnion F' t pre) := by
  unfold formatUnion
  dsimp only
  exact start_same hF hF' (unionLoop_same hF hF' pre) hN (adv_takeToks [32] 2 t _ nofun).le _

/-! ## The top-level loop -/

theorem formatLoop_same : SameLoop N (fun _ _ => True)
    (fun f t (b : List Byte × Bool × Bool) => formatLoop F f t b.1 b.2.1 b.2.2)
    (fun f t b => formatLoop F' f t b.1 b.2.1 b.2.2) :=
  Same.of_next_loop (fun _ _ _ _ _ => trivial) fun f f' t ⟨out, ro, nl⟩ ok t1 hn a1 hN1 again => by
    dsimp only
    rw [formatLoop, formatLoop, hn]
    cases ok
    · exact .refl trivial
    have again : ∀ (t2 : TR) out' ro' nl', mu t2 ≤ mu t1 →
        Same (fun _ => True) (formatLoop F f t2 out' ro' nl') (formatLoop F' f' t2 out' ro' nl') :=
      fun t2 out' ro' nl' h => again rfl t2 (out', ro', nl') h
    dsimp only
    split
    case h_3 | h_4 | h_5 | h_11 => exact again t1 _ _ _ (Nat.le_refl _)   -- a comment, `readonly`, anything else
    · have a2 := adv_takeToks [] 1 t1 t1.nextTok.concrete nofun
      exact again _ _ _ _ (a2.trans (adv_takeToks [] _ _ _ fun _ => a2.keep)).le
    · exact again _ _ _ _ (adv_takeToks [32] 1 t1 _ nofun).le
    · exact (formatEnum_same hF hF' t1 hN1).elim fun r h => again r.2 _ _ _ h
    · exact again _ _ _ _ (adv_formatConst t1).le
    · exact (formatStruct_same hF hF' t1 hN1 _ _).elim fun r h => again r.2 _ _ _ h
    · exact (formatMessage_same hF hF' t1 hN1 _).elim fun r h => again r.2 _ _ _ h
    · exact (formatUnion_same hF hF' t1 hN1 _).elim fun r h => again r.2 _ _ _ h

end

/-- **The formatter does not depend on its fuel**: for every input there is one result, and every fuel
    `F ≥ 2 * |inp| + 4` (the fuel `format` supplies, or more) yields it.  Since every loop of the model —
    the top-level loop, `formatType`'s recursion and `[]` loop, and the enum / struct / message / union body
    loops — answers `none` when its fuel runs out, this says that none of them ever does: `bebop.Format`
    terminates on every input, well-formed or not. -/
theorem format_fuel_stable (inp : List Byte) :
    ∃ out, ∀ F, 2 * inp.length + 4 ≤ F → formatLoop F F (mkTR inp) [] false false = some out := by
  have h0 : 2 * inp.length + 1 < 2 * inp.length + 4 := Nat.add_lt_add_left (by decide) _
  have h := fun F (hF : 2 * inp.length + 4 ≤ F) =>
    have hF := Nat.lt_of_lt_of_le h0 hF
    formatLoop_same h0 hF _ _ (mkTR inp) ([], false, false) (Nat.le_refl _) h0 hF
  obtain ⟨out, e, _⟩ := h _ (Nat.le_refl _)
  refine ⟨out, fun F hF => ?_⟩
  obtain ⟨out', e1, e2, _⟩ := h F hF
  exact e2.trans (e1.symm.trans e)

/-- **The formatter terminates on every input**: with the fuel `format` itself supplies, no loop runs out. -/
theorem format_total (inp : List Byte) : (format inp).isSome = true :=
  have ⟨out, h⟩ := format_fuel_stable inp
  Option.isSome_iff_exists.2 ⟨out, h _ (Nat.le_refl _)⟩

end Bebop.Text
