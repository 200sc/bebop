/-
  The fuel argument of the byte-slice decoder model is an artefact.

  Go's generated decoders have no fuel; the model's `dec`, `decMsgBody`, `decUnionBody` take one only so
  that Lean accepts the mutual recursion structurally.  `Ext r r'` says: `r'` is `r` unless `r` is the
  out-of-fuel answer.  More fuel only ever extends the decoder's answer in that sense (`dec_ext`), hence
  every answer other than `.fuel` is the answer for every larger fuel (`dec_fuel_mono`).  The theorems stated "for any fuel" therefore talk about ONE function of
  (schema, bytes), which is the thing the correspondence run compares with the generated Go code.
-/
import Bebop.Proofs.Dec

namespace Bebop

def Res.isFuel {α} : Res α → Bool | .fuel => true | _ => false

/-- `r'` extends `r`: equal unless `r` ran out of fuel. -/
def Ext {α} (r r' : Res α) : Prop := r = .fuel ∨ r' = r

theorem Ext.refl {α} (r : Res α) : Ext r r := Or.inr rfl

theorem Ext.bind {α β} {r r' : Res α} {k k' : α → Res β} (h : Ext r r') (hk : ∀ a, Ext (k a) (k' a)) :
    Ext (r >>= k) (r' >>= k') := by
  rcases h with h | h
  · exact Or.inl (by rw [h]; rfl)
  · subst h
    cases r' with
    | ok a => exact hk a
    | err => exact Or.inr rfl
    | panic => exact Or.inr rfl
    | fuel => exact Or.inl rfl

theorem Ext.bind_left {α β} {r r' : Res α} (h : Ext r r') (k : α → Res β) : Ext (r >>= k) (r' >>= k) :=
  h.bind fun _ => .refl _

theorem decN_ext (d d' : Dec) (h : ∀ buf, Ext (d buf) (d' buf)) (n : Nat) (buf : List Byte) :
    Ext (decN d n buf) (decN d' n buf) := by
  induction n generalizing buf with
  | zero => exact .refl _
  | succ n ih =>
    refine (h buf).bind fun p => ?_
    dsimp only
    split
    · exact Or.inl rfl
    · exact (ih p.2).bind_left _

theorem decEntries_ext (kt : Ty) (dk dk' dv dv' : Dec) (hk : ∀ buf, Ext (dk buf) (dk' buf))
    (hv : ∀ buf, Ext (dv buf) (dv' buf)) (n : Nat) (buf : List Byte) (acc : List (Val × Val)) :
    Ext (decEntries kt dk dv n buf acc) (decEntries kt dk' dv' n buf acc) := by
  induction n generalizing buf acc with
  | zero => exact .refl _
  | succ n ih => exact (hk buf).bind fun p => (hv p.2).bind fun q => ih q.2 _

theorem decFields_ext (d d' : Ty → Dec) (h : ∀ t buf, Ext (d t buf) (d' t buf)) (tys : List Ty) (buf : List Byte) :
    Ext (decFields d tys buf) (decFields d' tys buf) := by
  induction tys generalizing buf with
  | nil => exact .refl _
  | cons t ts ih => exact (h t buf).bind fun p => (ih p.2).bind_left _

theorem decMsgLoop_ext (safe : Bool) (d d' : Ty → Dec) (h : ∀ t buf, Ext (d t buf) (d' t buf))
    (fds : List MsgField) (n : Nat) (buf : List Byte) (acc : List (Nat × Val)) :
    Ext (decMsgLoop safe d fds n buf acc) (decMsgLoop safe d' fds n buf acc) := by
  induction n generalizing buf acc with
  | zero => exact Or.inl rfl
  | succ n ih =>
    cases buf with
    | nil => exact .refl _
    | cons b rest =>
      simp only [decMsgLoop]
      split
      · exact .refl _
      · exact (h _ rest).bind fun p => ih p.2 _

theorem decRecord_ext {env : Env} {f : Nat} (k : Nat)
    (hd : ∀ m ≤ f, ∀ safe ty buf, Ext (dec m env safe ty buf) (dec (k + m) env safe ty buf)) (safe : Bool)
    (n : Nat) (buf : List Byte) : Ext (decRecord f env safe n buf) (decRecord (k + f) env safe n buf) := by
  unfold decRecord
  split
  · exact .refl _
  · exact (decFields_ext _ _ (hd f (Nat.le_refl f) safe) _ buf).bind_left _
  · cases f with
    | zero => exact Or.inl rfl
    | succ f =>
      exact (Ext.refl _).bind fun p => (decMsgLoop_ext safe _ _ (hd f (Nat.le_succ f) safe) _ _ p.2 []).bind_left _
  · cases f with
    | zero => exact Or.inl rfl
    | succ f =>
      refine (Ext.refl _).bind fun p => ?_
      dsimp only
      split
      · exact .refl _
      · split
        · exact .refl _
        · exact (hd f (Nat.le_succ f) safe _ _).bind_left _

theorem dec_ext (env : Env) (f g : Nat) (hfg : f ≤ g) (safe : Bool) (ty : Ty) (buf : List Byte) :
    Ext (dec f env safe ty buf) (dec g env safe ty buf) := by
  -- `g = k + f` with `k` fixed: `k + (f+1)` is a successor by computation, so the induction carries nothing about `f ≤ g`
  obtain ⟨k, rfl⟩ := Nat.exists_eq_add_of_le' hfg
  clear hfg
  induction f using Nat.strongRecOn generalizing safe ty buf with
  | ind f ih =>
  cases f with
  | zero => exact Or.inl rfl
  | succ f =>
    have ihf := ih f (Nat.lt_succ_self f)
    cases ty with
    | bool | scalar w | f32 | f64 | date | guid | str => exact .refl _
    | arr t =>
      refine (Ext.refl _).bind fun p => ?_
      dsimp only
      split
      · split
        · exact .refl _
        · exact (decN_ext _ _ (ihf false t) p.1 p.2).bind_left _
      · exact (decN_ext _ _ (ihf safe t) p.1 p.2).bind_left _
    | map kt vt =>
      exact (Ext.refl _).bind fun p =>
        (decEntries_ext kt _ _ _ _ (ihf safe kt) (ihf safe vt) p.1 p.2 []).bind_left _
    | ref n =>
      rw [dec_ref, ← Nat.add_assoc, dec_ref]
      exact (decRecord_ext k (fun m hm => ih m (Nat.lt_succ_of_le hm)) safe n buf).bind_left _

theorem dec_fuel_mono (env : Env) (f g : Nat) (hfg : f ≤ g) (safe : Bool) (ty : Ty) (buf : List Byte)
    (h : dec f env safe ty buf ≠ .fuel) : dec g env safe ty buf = dec f env safe ty buf :=
  (dec_ext env f g hfg safe ty buf).resolve_left h

theorem unmarshal_fuel_mono (env : Env) (f g : Nat) (hfg : f ≤ g) (safe : Bool) (n : Nat) (buf : List Byte)
    (h : unmarshal f env safe n buf ≠ .fuel) : unmarshal g env safe n buf = unmarshal f env safe n buf := by
  obtain ⟨k, rfl⟩ := Nat.exists_eq_add_of_le' hfg
  rw [unmarshal_eq, unmarshal_eq] at *
  exact ((decRecord_ext k (fun m _ => dec_ext env m _ (Nat.le_add_left ..)) safe n buf).bind_left _).resolve_left h

end Bebop
