/-
  Helper lemmas about `gsize` (the generated `Size()` in general, which skips deprecated message fields)
  and its relation to `vsize` (`Size()` of a value without deprecated fields = length of the encoding).
-/
import Bebop.Slice

namespace Bebop

theorem find_msgField (fds : List MsgField) (i : Nat) (fd : MsgField)
    (h : fds.find? (fun fd => fd.idx == i) = some fd) : fd.idx = i :=
  eq_of_beq (List.find?_some h :)

/-- What the field `(i, v)` adds to a message's `Size()`. -/
def gfield (env : Env) (fds : List MsgField) (i : Nat) (v : Val) : Nat :=
  match fds.find? (fun fd => fd.idx == i) with
  | some fd => if fd.deprecated = true then 0 else 1 + gsize env fd.ty v
  | none => 0

theorem gsizeFields_cons (env : Env) (fds : List MsgField) (i : Nat) (v : Val) (fs : List (Nat × Val)) :
    gsizeFields env fds ((i, v) :: fs) = gfield env fds i v + gsizeFields env fds fs := by
  cases h : fds.find? (fun fd => fd.idx == i) <;> simp only [gsizeFields, gfield, h]

theorem gfield_le (env : Env) (fds : List MsgField) (i : Nat) (v : Val) (fd : MsgField)
    (h : fds.find? (fun fd => fd.idx == i) = some fd) : gfield env fds i v ≤ 1 + gsize env fd.ty v := by
  simp only [gfield, h]
  split <;> omega

mutual
/-- `Size()` never exceeds the size with every present field counted. -/
theorem gsize_le_vsize (env : Env) : (v : Val) → ∀ ty, gsize env ty v ≤ vsize v
  | .scalar _ _, _ => Nat.le_refl _
  | .str _, _ => Nat.le_refl _
  | .guid _, _ => Nat.le_refl _
  | .arr vs, ty => by
      simp only [gsize]
      split
      · exact Nat.add_le_add_left (gsizeList_le env vs _) 4
      · exact Nat.le_refl _
  | .map kvs, ty => by
      simp only [gsize]
      split
      · exact Nat.add_le_add_left (gsizeKVs_le env kvs _ _) 4
      · exact Nat.le_refl _
  | .struct fs, ty => by
      simp only [gsize]
      split
      · split
        · exact gsizeStruct_le env fs _
        · exact Nat.le_refl _
      · exact Nat.le_refl _
  | .msg fs, ty => by
      simp only [gsize]
      split
      · split
        · exact Nat.add_le_add_left (gsizeFields_le env fs _) _
        · exact Nat.le_refl _
      · exact Nat.le_refl _
  | .union d v, ty => by
      simp only [gsize]
      split
      · split
        · split
          · exact Nat.add_le_add_left (gsize_le_vsize env v _) _
          · simp only [vsize]; omega
        · exact Nat.le_refl _
      · exact Nat.le_refl _
theorem gsizeList_le (env : Env) : (vs : List Val) → ∀ t, gsizeList env t vs ≤ vsizeList vs
  | [], _ => Nat.le_refl _
  | v :: vs, t => Nat.add_le_add (gsize_le_vsize env v t) (gsizeList_le env vs t)
theorem gsizeKVs_le (env : Env) : (kvs : List (Val × Val)) → ∀ k t, gsizeKVs env k t kvs ≤ vsizeKVs kvs
  | [], _, _ => Nat.le_refl _
  | (a, b) :: kvs, k, t =>
      Nat.add_le_add (Nat.add_le_add (gsize_le_vsize env a k) (gsize_le_vsize env b t)) (gsizeKVs_le env kvs k t)
theorem gsizeStruct_le (env : Env) : (vs : List Val) → ∀ tys, gsizeStruct env tys vs ≤ vsizeList vs
  | [], tys => by cases tys <;> exact Nat.le_refl _
  | v :: vs, [] => Nat.zero_le _
  | v :: vs, t :: tys => Nat.add_le_add (gsize_le_vsize env v t) (gsizeStruct_le env vs tys)
theorem gsizeFields_le (env : Env) : (fs : List (Nat × Val)) → ∀ fds, gsizeFields env fds fs ≤ vsizeFields fs
  | [], _ => Nat.le_refl _
  | (i, v) :: fs, fds => by
      have h2 := gsizeFields_le env fs fds
      simp only [gsizeFields_cons, gfield, vsizeFields]
      split
      · next fd _ => have := gsize_le_vsize env v fd.ty; split <;> omega
      · omega
end

mutual
/-- On a well-typed value (no deprecated field present) `Size()` counts everything: `gsize` is `vsize`. -/
theorem gsize_eq_vsize_of_wt (env : Env) : (v : Val) → ∀ ty, wt env ty v → gsize env ty v = vsize v
  | .scalar _ _, _, _ => rfl
  | .str _, _, _ => rfl
  | .guid _, _, _ => rfl
  | .arr vs, ty, h => by
      obtain ⟨t, rfl, _, hw, _⟩ := h
      simp only [gsize, vsize, gsizeList_eq_of_wt env vs t hw]
  | .map kvs, ty, h => by
      obtain ⟨k, t, rfl, _, _, hw, _⟩ := h
      simp only [gsize, vsize, gsizeKVs_eq_of_wt env kvs k t hw]
  | .struct fs, ty, h => by
      obtain ⟨n, tys, rfl, hn, hw⟩ := h
      simp only [gsize, hn, vsize, gsizeStruct_eq_of_wt env fs tys hw]
  | .msg fs, ty, h => by
      obtain ⟨n, fds, rfl, hn, hw, _⟩ := h
      simp only [gsize, hn, vsize, gsizeFields_eq_of_wt env fs fds 0 hw]
  | .union d v, ty, h => by
      obtain ⟨n, brs, m, rfl, hn, _, hm, hw, _⟩ := h
      simp only [gsize, hn, hm, vsize, gsize_eq_vsize_of_wt env v (.ref m) hw]
theorem gsizeList_eq_of_wt (env : Env) : (vs : List Val) → ∀ t, wtList env t vs → gsizeList env t vs = vsizeList vs
  | [], _, _ => rfl
  | v :: vs, t, h => by
      simp only [gsizeList, vsizeList, gsize_eq_vsize_of_wt env v t h.1, gsizeList_eq_of_wt env vs t h.2]
theorem gsizeKVs_eq_of_wt (env : Env) :
    (kvs : List (Val × Val)) → ∀ k t, wtKVs env k t kvs → gsizeKVs env k t kvs = vsizeKVs kvs
  | [], _, _, _ => rfl
  | (a, b) :: kvs, k, t, h => by
      simp only [gsizeKVs, vsizeKVs, gsize_eq_vsize_of_wt env a k h.1, gsize_eq_vsize_of_wt env b t h.2.1,
        gsizeKVs_eq_of_wt env kvs k t h.2.2]
theorem gsizeStruct_eq_of_wt (env : Env) :
    (vs : List Val) → ∀ tys, wtStruct env tys vs → gsizeStruct env tys vs = vsizeList vs
  | [], [], _ => rfl
  | [], _ :: _, h => h.elim
  | _ :: _, [], h => h.elim
  | v :: vs, t :: tys, h => by
      simp only [gsizeStruct, vsizeList, gsize_eq_vsize_of_wt env v t h.1, gsizeStruct_eq_of_wt env vs tys h.2]
theorem gsizeFields_eq_of_wt (env : Env) :
    (fs : List (Nat × Val)) → ∀ fds lo, wtMsg env fds lo fs → gsizeFields env fds fs = vsizeFields fs
  | [], _, _, _ => rfl
  | (i, v) :: fs, fds, lo, h => by
      obtain ⟨_, _, ⟨fd, hfd, hdep, hwv⟩, hrest⟩ := h
      simp [gsizeFields_cons, gfield, hfd, vsizeFields, hdep, gsize_eq_vsize_of_wt env v fd.ty hwv,
        gsizeFields_eq_of_wt env fs fds i hrest]
end

/-- A value of a key type is a scalar, a string or a GUID. -/
theorem key_cases {env : Env} {k : Ty} (hk : isKeyTy k = true) :
    {a : Val} → wt env k a → (∃ w n, a = .scalar w n) ∨ (∃ bs, a = .str bs) ∨ ∃ bs, a = .guid bs
  | .scalar w n, _ => .inl ⟨w, n, rfl⟩
  | .str bs, _ => .inr (.inl ⟨bs, rfl⟩)
  | .guid bs, _ => .inr (.inr ⟨bs, rfl⟩)
  | .arr _, h => by obtain ⟨_, rfl, _⟩ := h; cases hk
  | .map _, h => by obtain ⟨_, _, rfl, _⟩ := h; cases hk
  | .struct _, h => by obtain ⟨_, _, rfl, _⟩ := h; cases hk
  | .msg _, h => by obtain ⟨_, _, rfl, _⟩ := h; cases hk
  | .union _ _, h => by obtain ⟨_, _, _, rfl, _⟩ := h; cases hk

/-- For a primitive value (all a map key can be) the type plays no role. -/
theorem gsize_key (env env' : Env) (k : Ty) (hk : isKeyTy k = true) (ty : Ty) :
    (a : Val) → wt env' k a → gsize env ty a = vsize a := fun _ h => by
  obtain ⟨_, _, rfl⟩ | ⟨_, rfl⟩ | ⟨_, rfl⟩ := key_cases hk h <;> rfl

end Bebop
