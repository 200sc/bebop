/-
  Helper lemmas for C18 (import handling): the specification notions (`Imports`, `Reachable`, `Live`,
  `PkgEdge`, `Edge`, `Path`, `HasCycle`), ONE invariant of the worklist loop (`WL`) with its fuel measure,
  a one-level description of `dfs` / `findCycle.scan`, and `resolveImports_spec`: what `resolveImports`
  returns, said in the specification's terms. The property theorems of Bebop/Props/C18.lean are read off it.
-/
import Bebop.Text.Imports

namespace Bebop.Text

/-! ## Specification notions -/

/-- File `a` exists and has an import statement resolving to `b`. -/
def Imports (fs : FS) (a b : Nat) : Prop := ∃ info, fs[a]? = some info ∧ b ∈ info.imports

/-- The files transitively imported by the root file (file 0). Targets need not exist. -/
inductive Reachable (fs : FS) : Nat → Prop
  | root {root t} : fs[0]? = some root → t ∈ root.imports → Reachable fs t
  | step {a b} : Reachable fs a → Imports fs a b → Reachable fs b

/-- The root or a file transitively imported by it. -/
def Live (fs : FS) (x : Nat) : Prop := x = 0 ∨ Reachable fs x

theorem Live.imports {fs : FS} {x y : Nat} {ix : SrcInfo} (hl : Live fs x) (hx : fs[x]? = some ix)
    (hy : y ∈ ix.imports) : Reachable fs y := by
  rcases hl with rfl | hl
  · exact Reachable.root hx hy
  · exact Reachable.step hl ⟨ix, hx, hy⟩

abbrev Edges := List (Option Nat × Option Nat)

/-- `a → b` is an edge of the package graph: some live file of package `a` imports an existing file of
    package `b` (packages are `Option`: `none` is "no go_package"). -/
def PkgEdge (fs : FS) (a b : Option Nat) : Prop :=
  ∃ x y ix iy, Live fs x ∧ fs[x]? = some ix ∧ y ∈ ix.imports ∧ fs[y]? = some iy ∧ a = ix.pkg ∧ b = iy.pkg

/-- The initial worklist of `resolveImports`. -/
abbrev rootWork (root : SrcInfo) : List (Option Nat × Nat) := root.imports.map (fun t => (root.pkg, t))

/-- The fuel `resolveImports` hands to `worklist`. -/
abbrev worklistFuel (fs : FS) (root : SrcInfo) : Nat :=
  fs.foldl (fun n i => n + i.imports.length) 0 + root.imports.length + 1

/-! ## The worklist: one invariant -/

/-- `(s, t)` is an import statement of a live file of package `s`, resolving to `t`. -/
def Stmt (fs : FS) (e : Option Nat × Nat) : Prop :=
  ∃ x ix, Live fs x ∧ fs[x]? = some ix ∧ e.2 ∈ ix.imports ∧ e.1 = ix.pkg

theorem Stmt.reachable {fs : FS} {e} : Stmt fs e → Reachable fs e.2
  | ⟨_, _, hl, hx, hy, _⟩ => hl.imports hx hy

theorem Stmt.edge {fs : FS} {s t info} : Stmt fs (s, t) → fs[t]? = some info → PkgEdge fs s info.pkg
  | ⟨x, ix, hl, hx, hy, hs⟩, hi => ⟨x, t, ix, info, hl, hx, hy, hi, hs, rfl⟩

/-- The state of the worklist loop: what is imported is duplicate free, reachable and exists; what is on
    the worklist and what is recorded as an edge comes from import statements of live files; and every
    import statement of the root and of the imported files is still on the worklist or has been followed
    (its target imported, its edge recorded). -/
structure WL (fs : FS) (wl : List (Option Nat × Nat)) (imported : List Nat) (edges : Edges) : Prop where
  nodup : imported.Nodup
  imp : ∀ t ∈ imported, Reachable fs t ∧ fs[t]?.isSome
  stmts : ∀ e ∈ wl, Stmt fs e
  sound : ∀ e ∈ edges, PkgEdge fs e.1 e.2
  closed : ∀ x ix, (x = 0 ∨ x ∈ imported) → fs[x]? = some ix → ∀ y ∈ ix.imports,
    (ix.pkg, y) ∈ wl ∨ y ∈ imported ∧ ∃ iy, fs[y]? = some iy ∧ (ix.pkg, iy.pkg) ∈ edges

theorem WL.init {fs : FS} {root : SrcInfo} (h0 : fs[0]? = some root) : WL fs (rootWork root) [] [] where
  nodup := .nil
  imp := nofun
  stmts := List.forall_mem_map.mpr fun _ ht => ⟨0, root, .inl rfl, h0, ht, rfl⟩
  sound := nofun
  closed x ix hx hix y hy := by
    obtain rfl | hx := hx
    · cases h0.symm.trans hix
      exact .inl (List.mem_map.mpr ⟨y, hy, rfl⟩)
    · cases hx

/-- A file not imported so far is imported: its import statements go on the worklist. (The step of
    `worklist` at a new target is this move followed by `WL.pop`.) -/
theorem WL.push {fs : FS} {wl imported edges tgt info} (h : WL fs wl imported edges) (hr : Reachable fs tgt)
    (hi : fs[tgt]? = some info) (hn : tgt ∉ imported) :
    WL fs (wl ++ info.imports.map (fun t => (info.pkg, t))) (imported ++ [tgt]) edges where
  nodup := List.nodup_append.mpr
    ⟨h.nodup, by simp, fun _ ha _ hb e => hn (List.mem_singleton.mp hb ▸ e ▸ ha)⟩
  imp := List.forall_mem_append.mpr
    ⟨h.imp, List.forall_mem_singleton.mpr ⟨hr, Option.isSome_iff_exists.mpr ⟨_, hi⟩⟩⟩
  stmts := List.forall_mem_append.mpr
    ⟨h.stmts, List.forall_mem_map.mpr fun _ ht => ⟨tgt, info, .inr hr, hi, ht, rfl⟩⟩
  sound := h.sound
  closed x ix hx hix y hy := by
    rcases (show (x = 0 ∨ x ∈ imported) ∨ x = tgt by simpa [or_assoc] using hx) with hx | rfl
    · exact (h.closed x ix hx hix y hy).imp (List.mem_append_left _) (.imp_left (List.mem_append_left _))
    · cases hi.symm.trans hix
      exact .inl (List.mem_append_right _ (List.mem_map.mpr ⟨y, hy, rfl⟩))

/-- The entry `(src, tgt)` is followed, `tgt` being imported by now: it leaves the worklist, its edge is
    recorded. -/
theorem WL.pop {fs : FS} {src tgt rest imported edges info} (h : WL fs ((src, tgt) :: rest) imported edges)
    (hi : fs[tgt]? = some info) (hm : tgt ∈ imported) : WL fs rest imported (edges ++ [(src, info.pkg)]) where
  nodup := h.nodup
  imp := h.imp
  stmts e he := h.stmts e (List.mem_cons_of_mem _ he)
  sound := List.forall_mem_append.mpr
    ⟨h.sound, List.forall_mem_singleton.mpr ((h.stmts _ List.mem_cons_self).edge hi)⟩
  closed x ix hx hix y hy := by
    rcases h.closed x ix hx hix y hy with hw | ⟨hy, iy, hiy, he⟩
    · rcases List.mem_cons.mp hw with hw | hw
      · cases hw
        exact .inr ⟨hm, info, hi, List.mem_append_right _ (List.mem_singleton_self _)⟩
      · exact .inl hw
    · exact .inr ⟨hy, iy, hiy, List.mem_append_left _ he⟩

/-- When the worklist is empty, `imported` is closed under `Imports` … -/
theorem WL.mem_of_reachable {fs : FS} {imported edges} (h : WL fs [] imported edges) {t} (ht : Reachable fs t) :
    t ∈ imported := by
  have hcl : ∀ x ix, (x = 0 ∨ x ∈ imported) → fs[x]? = some ix → ∀ y ∈ ix.imports, y ∈ imported :=
    fun x ix hx hix y hy => (h.closed x ix hx hix y hy).elim nofun (·.1)
  induction ht with
  | root hr hm => exact hcl 0 _ (.inl rfl) hr _ hm
  | step _ hab ih => obtain ⟨ia, hia, hb⟩ := hab; exact hcl _ ia (.inr ih) hia _ hb

/-- … and the recorded edges are exactly the package edges. -/
theorem WL.edge_iff {fs : FS} {imported edges} (h : WL fs [] imported edges) (a b : Option Nat) :
    (a, b) ∈ edges ↔ PkgEdge fs a b := by
  refine ⟨h.sound (a, b), ?_⟩
  rintro ⟨x, y, ix, iy, hl, hx, hy, hiy, rfl, rfl⟩
  obtain ⟨_, iy', hiy', he⟩ := (h.closed x ix (hl.imp_right h.mem_of_reachable) hx y hy).resolve_left nofun
  rw [hiy] at hiy'; cases hiy'; exact he

/-! ## The worklist: fuel measure -/

/-- Total number of import statements of the files whose number does not satisfy `p`. -/
def pend : FS → (Nat → Bool) → Nat
  | [], _ => 0
  | info :: rest, p => (if p 0 then 0 else info.imports.length) + pend rest fun j => p (j+1)

theorem foldl_imports (fs : FS) (a : Nat) {p : Nat → Bool} (hp : ∀ j, p j = false) :
    fs.foldl (fun n i => n + i.imports.length) a = a + pend fs p := by
  induction fs generalizing a p with
  | nil => rfl
  | cons x xs ih =>
    rw [List.foldl_cons, ih _ fun j => hp (j+1), pend, hp 0, if_neg Bool.false_ne_true, Nat.add_assoc]

/-- Marking an existing file `tgt` takes its import statements out of `pend`. -/
theorem pend_step {p q : Nat → Bool} {tgt : Nat} (hq : ∀ j, q j = (p j || j == tgt)) (hp : p tgt = false) :
    ∀ {fs : FS} {info}, fs[tgt]? = some info → pend fs q + info.imports.length ≤ pend fs p := by
  intro fs
  induction fs generalizing p q tgt with
  | nil => nofun
  | cons x xs ih =>
    intro info hi
    cases tgt with
    | zero =>
      cases hi
      have : (fun j => q (j+1)) = fun j => p (j+1) := funext fun j => by simp [hq]
      simp only [pend, this, hq 0, hp, BEq.rfl, Bool.or_true, if_true, Bool.false_eq_true, if_false]
      omega
    | succ t =>
      have := ih (p := fun j => p (j+1)) (q := fun j => q (j+1)) (fun j => by simp [hq]) hp hi
      simp only [pend, hq 0, show (0 == t+1) = false from rfl, Bool.or_false]
      omega

/-- What a run of `worklist` ends with, when it starts in a state satisfying `WL`: the only error is a
    reachable target that does not exist; a result satisfies `Q`. -/
def WPost (fs : FS) (Q : List Nat → Edges → Prop) : Except ImpErr (List Nat × Edges) → Prop
  | .ok (imported, edges) => Q imported edges
  | .error e => e = .notFound ∧ ∃ t, Reachable fs t ∧ fs[t]? = none

theorem WPost.mono {fs : FS} {Q Q' : List Nat → Edges → Prop} (h : ∀ i e, Q i e → Q' i e) :
    ∀ {r}, WPost fs Q r → WPost fs Q' r
  | .ok _, hq => h _ _ hq
  | .error _, hq => hq

/-- The result satisfies `WL` for some rest of the worklist, which is empty if the fuel was enough. -/
theorem worklist_spec (fs : FS) (fuel wl imported edges) (h : WL fs wl imported edges) :
    WPost fs (fun imported' edges' => ∃ wl', WL fs wl' imported' edges' ∧
        (wl.length + pend fs imported.contains < fuel → wl' = []))
      (worklist fs fuel wl imported edges) := by
  fun_induction worklist fs fuel wl imported edges with
  | case1 wl => exact ⟨wl, h, fun hf => absurd hf (Nat.not_lt_zero _)⟩
  | case2 => exact ⟨[], h, fun _ => rfl⟩
  | case3 _ _ tgt _ _ _ hi => exact ⟨rfl, tgt, (h.stmts _ List.mem_cons_self).reachable, hi⟩
  | case4 _ _ _ _ _ _ _ hi _ hc ih =>
    refine (ih (h.pop hi (List.contains_iff_mem.mp hc))).mono
      fun _ _ => .imp fun _ => .imp_right fun he hf => he ?_
    simp only [List.length_cons] at hf; omega
  | case5 _ _ tgt _ imported _ info hi _ hc ih =>
    have hw := (h.push (h.stmts _ List.mem_cons_self).reachable hi (mt List.contains_iff_mem.mpr hc)).pop hi
      (List.mem_append_right _ (List.mem_singleton_self _))
    refine (ih hw).mono fun _ _ => .imp fun _ => .imp_right fun he hf => he ?_
    have := pend_step (p := imported.contains) (q := (imported ++ [tgt]).contains)
      (fun _ => by rw [List.contains_append, List.contains_cons, List.contains_nil, Bool.or_false])
      (Bool.eq_false_iff.mpr hc) hi
    simp only [List.length_cons, List.length_append, List.length_map] at hf ⊢; omega

/-- `imported` lists, once each, exactly the files transitively imported by the root, and all of them (and
    the root) exist. -/
structure Closure (fs : FS) (imported : List Nat) : Prop where
  root : fs[0]?.isSome
  nodup : imported.Nodup
  mem : ∀ t, t ∈ imported ↔ Reachable fs t
  exist : ∀ t, Reachable fs t → fs[t]?.isSome

theorem Closure.not_missing {fs : FS} {imported} (h : Closure fs imported) :
    ¬ (fs[0]? = none ∨ ∃ t, Reachable fs t ∧ fs[t]? = none) := by
  rintro (h0 | ⟨t, ht, hn⟩)
  · simpa [h0] using h.root
  · simpa [hn] using h.exist t ht

/-- The run `resolveImports` makes: with its fuel the worklist is worked off. -/
theorem worklist_root {fs : FS} {root : SrcInfo} (h0 : fs[0]? = some root) :
    WPost fs (fun imported edges => Closure fs imported ∧ ∀ a b, (a, b) ∈ edges ↔ PkgEdge fs a b)
      (worklist fs (worklistFuel fs root) (rootWork root) [] []) := by
  refine (worklist_spec fs _ _ _ _ (WL.init h0)).mono fun imported edges ⟨wl, hwl, he⟩ => ?_
  cases he (by
    simp only [rootWork, worklistFuel, List.length_map, foldl_imports fs 0 (p := [].contains) fun _ => rfl]
    omega)
  exact ⟨⟨by simp [h0], hwl.nodup, fun t => ⟨fun ht => (hwl.imp t ht).1, hwl.mem_of_reachable⟩,
    fun t ht => (hwl.imp t (hwl.mem_of_reachable ht)).2⟩, hwl.edge_iff⟩

/-! ## The package graph: edges, paths, cycles -/

def Edge (edges : Edges) (a b : Option Nat) : Prop := (a, b) ∈ edges

/-- A path with at least one edge. -/
inductive Path (edges : Edges) : Option Nat → Option Nat → Prop
  | single {a b} : Edge edges a b → Path edges a b
  | cons {a b c} : Edge edges a b → Path edges b c → Path edges a c

def HasCycle (edges : Edges) : Prop := ∃ n, Path edges n n

theorem Path.trans {edges : Edges} {a b c} (h1 : Path edges a b) (h2 : Path edges b c) : Path edges a c := by
  induction h1 with
  | single e => exact Path.cons e h2
  | cons e _ ih => exact Path.cons e (ih h2)

theorem Path.snoc {edges : Edges} {a b c} (h1 : Path edges a b) (h2 : Edge edges b c) : Path edges a c :=
  h1.trans (Path.single h2)

theorem Path.head_edge {edges : Edges} {a b} : Path edges a b → ∃ c, Edge edges a c
  | .single e | .cons e _ => ⟨_, e⟩

theorem mem_succs (edges : Edges) (node t : Option Nat) :
    t ∈ (edges.filter (·.1 == node)).map (·.2) ↔ Edge edges node t := by
  simp only [List.mem_map, List.mem_filter, beq_iff_eq, Edge]
  exact ⟨fun ⟨⟨a, b⟩, ⟨hm, ha⟩, hb⟩ => by cases ha; cases hb; exact hm, fun h => ⟨(node, t), ⟨h, rfl⟩, rfl⟩⟩

/-! ## dfs, one level of the recursion at a time -/

/-- What the three answers of a search mean: `T` of `some true`, `F` of `some false`, `N` of running out of fuel. -/
def Ans (T F N : Prop) : Option Bool → Prop
  | some true => T
  | some false => F
  | none => N

theorem Ans.imp {T F N T' F' N' : Prop} (hT : T → T') (hF : F → F') (hN : N → N') :
    ∀ {r}, Ans T F N r → Ans T' F' N' r
  | some true => hT
  | some false => hF
  | none => hN

theorem Ans.of_eq {T F N : Prop} {r b} (h : Ans T F N r) (e : r = b) : Ans T F N b := e ▸ h

/-- A search that always answers, `true` exactly if `T`. -/
theorem Ans.decides {T : Prop} : ∀ {r}, Ans T (¬ T) False r → (r = some true ↔ T) ∧ (r = some false ↔ ¬ T)
  | some true, h => ⟨iff_of_true rfl h, iff_of_false nofun (not_not_intro h)⟩
  | some false, h => ⟨iff_of_false nofun h, iff_of_true rfl h⟩
  | none, h => h.elim

/-- The loop over the successors: `true` comes from a successor on the stack or from a recursive call,
    `false` needs every successor off the stack and every call `false`, running out of fuel comes from a call. -/
theorem dfs_go_cases (edges : Edges) (f : Nat) (st ts : List (Option Nat)) :
    Ans (∃ t ∈ ts, t ∈ st ∨ dfs edges f t st = some true) (∀ t ∈ ts, t ∉ st ∧ dfs edges f t st = some false)
      (∃ t ∈ ts, t ∉ st ∧ dfs edges f t st = none) (dfs.go edges f st ts) := by
  induction ts with
  | nil => rw [dfs.go]; exact (nofun : ∀ t ∈ [], _)
  | cons t ts ih =>
    rw [dfs.go]
    split
    next hc => exact ⟨t, List.mem_cons_self, .inl (List.contains_iff_mem.mp hc)⟩
    next hc =>
      have hc := mt List.contains_iff_mem.mpr hc
      split
      next hd => exact ⟨t, List.mem_cons_self, .inr hd⟩
      next hd =>
        exact ih.imp (.imp fun _ => .imp_left (List.mem_cons_of_mem _))
          (fun h => List.forall_mem_cons.mpr ⟨⟨hc, hd⟩, h⟩) (.imp fun _ => .imp_left (List.mem_cons_of_mem _))
      next hd => exact ⟨t, List.mem_cons_self, hc, hd⟩

theorem dfs_cases (edges : Edges) (f : Nat) (node : Option Nat) (stack : List (Option Nat)) :
    Ans (∃ t, Edge edges node t ∧ (t ∈ node :: stack ∨ dfs edges f t (node :: stack) = some true))
      (∀ t, Edge edges node t → t ∉ node :: stack ∧ dfs edges f t (node :: stack) = some false)
      (∃ t, Edge edges node t ∧ t ∉ node :: stack ∧ dfs edges f t (node :: stack) = none)
      (dfs edges (f+1) node stack) := by
  rw [dfs]
  exact (dfs_go_cases edges f (node :: stack) _).imp (.imp fun _ => .imp_left (mem_succs ..).mp)
    (fun h t ht => h t ((mem_succs ..).mpr ht)) (.imp fun _ => .imp_left (mem_succs ..).mp)

/-! ## dfs: a `true` answer -/

/-- What `dfs … = some true` means without any assumption on the stack: from `node` one can get back to
    the recursion stack, or to a node that lies on a cycle. -/
theorem dfs_true (edges : Edges) (f node stack) (h : dfs edges f node stack = some true) :
    (∃ t ∈ node :: stack, Path edges node t) ∨ (∃ t, Path edges node t ∧ Path edges t t) := by
  induction f generalizing node stack with
  | zero => rw [dfs] at h; cases h
  | succ f ih =>
    obtain ⟨t, he, ht | ht⟩ := (dfs_cases edges f node stack).of_eq h
    · exact .inl ⟨t, ht, .single he⟩
    · rcases ih t _ ht with ⟨u, hu, hp⟩ | ⟨u, hp, hc⟩
      · rcases List.mem_cons.mp hu with rfl | hu
        · exact .inr ⟨u, .single he, hp⟩
        · exact .inl ⟨u, hu, .cons he hp⟩
      · exact .inr ⟨u, .cons he hp, hc⟩

/-- If the stack is a path leading to `node`, a `true` answer is a cycle. -/
theorem dfs_true_cycle (edges : Edges) f node stack (hst : ∀ s ∈ stack, Path edges s node)
    (h : dfs edges f node stack = some true) : HasCycle edges := by
  rcases dfs_true edges f node stack h with ⟨t, ht, hp⟩ | ⟨t, _, hc⟩
  · rcases List.mem_cons.mp ht with rfl | ht
    · exact ⟨_, hp⟩
    · exact ⟨t, (hst t ht).trans hp⟩
  · exact ⟨t, hc⟩

/-! ## dfs: a `false` answer -/

theorem dfs_false {edges : Edges} {f node stack t} (h : dfs edges f node stack = some false)
    (e : Edge edges node t) : t ∉ node :: stack ∧ ∃ f', dfs edges f' t (node :: stack) = some false := by
  cases f with
  | zero => rw [dfs] at h; cases h
  | succ f =>
    have hc := (dfs_cases edges f node stack).of_eq h t e
    exact ⟨hc.1, f, hc.2⟩

/-- A `false` answer at `node` was preceded by `false` answers at everything `node` leads to, none of
    which was on the stack then. -/
theorem dfs_false_path {edges : Edges} {node m} (hp : Path edges node m) :
    ∀ {f stack}, dfs edges f node stack = some false →
      m ∉ node :: stack ∧ ∃ f' stack', dfs edges f' m stack' = some false := by
  induction hp with
  | single e => intro f stack h; exact (dfs_false h e).imp_right (.imp fun _ h' => ⟨_, h'⟩)
  | cons e _ ih =>
    intro f stack h
    obtain ⟨_, f', h'⟩ := dfs_false h e
    exact (ih h').imp_left (mt (List.mem_cons_of_mem _))

/-- No cycle can be reached from `n`. -/
def Good (edges : Edges) (n : Option Nat) : Prop := ∀ m, (n = m ∨ Path edges n m) → ¬ Path edges m m

theorem Good.edge {edges : Edges} {a b} (h : Good edges a) (e : Edge edges a b) : Good edges b :=
  fun m hm => h m (.inr (hm.elim (· ▸ .single e) (.cons e)))

/-- A node reachable from the root of a `false` search that lay on a cycle would, searched in its turn,
    have met itself on the stack. -/
theorem dfs_false_good {edges : Edges} {f r st} (h : dfs edges f r st = some false) : Good edges r := by
  intro m hm hc
  obtain ⟨f', st', h'⟩ : ∃ f' st', dfs edges f' m st' = some false :=
    hm.elim (fun e => e ▸ ⟨f, st, h⟩) (fun hp => (dfs_false_path hp h).2)
  exact (dfs_false_path hc h').1 List.mem_cons_self

/-- Whatever holds of the todo list and of `seen`, and is passed on along edges, holds of all `reach` returns. -/
theorem reach_inv {edges : Edges} {P : Option Nat → Prop} (hP : ∀ a b, P a → Edge edges a b → P b)
    (fuel todo seen) (ht : ∀ n ∈ todo, P n) (hs : ∀ n ∈ seen, P n) : ∀ m ∈ reach edges fuel todo seen, P m := by
  fun_induction reach edges fuel todo seen with
  | case1 | case2 => exact hs
  | case3 _ _ _ _ _ ih => exact ih (List.forall_mem_cons.mp ht).2 hs
  | case4 _ n _ _ _ ih =>
    obtain ⟨hn, ht⟩ := List.forall_mem_cons.mp ht
    exact ih (List.forall_mem_append.mpr ⟨ht, fun k hk => hP n k hn ((mem_succs ..).mp hk)⟩)
      (List.forall_mem_append.mpr ⟨hs, by simpa using hn⟩)

/-- The outer loop: `true` is a `true` answer of one of its searches, hence a cycle; `false` means that no
    scanned node leads to a cycle, given that no visited one does; "out of fuel" comes from a search. -/
theorem scan_cases (edges : Edges) (depth : Nat) (ns visited) (hv : ∀ v ∈ visited, Good edges v) :
    Ans (HasCycle edges) (∀ n ∈ ns, Good edges n) (∃ n ∈ ns, dfs edges depth n [] = none)
      (findCycle.scan edges depth ns visited) := by
  fun_induction findCycle.scan edges depth ns visited with
  | case1 => exact (nofun : ∀ n ∈ [], _)
  | case2 n _ _ hc ih =>
    exact (ih hv).imp id (fun h => List.forall_mem_cons.mpr ⟨hv n (List.contains_iff_mem.mp hc), h⟩)
      (.imp fun _ => .imp_left (List.mem_cons_of_mem _))
  | case3 n _ _ _ hd => exact dfs_true_cycle edges depth n [] nofun hd
  | case4 n _ _ _ hd ih =>
    have hg := dfs_false_good hd
    exact (ih (reach_inv (fun _ _ => Good.edge) _ _ _ (List.forall_mem_cons.mpr ⟨hg, nofun⟩) hv)).imp id
      (fun h => List.forall_mem_cons.mpr ⟨hg, h⟩) (.imp fun _ => .imp_left (List.mem_cons_of_mem _))
  | case5 n _ _ _ hd => exact ⟨n, List.mem_cons_self, hd⟩

/-! ## `sortNodes` keeps every node

  `Array.qsort` has no lemmas in the core library and its workers (`qsort.sort`, `qpartition.loop`) are
  private to `Init.Data.Array.QSort.Basic`; the macro below only spells their (mangled) names, so that
  `fun_induction` can follow their recursion. -/

open Lean in
local macro "qs%" f:ident xs:term:max* : term =>
  pure (Syntax.mkApp (mkIdent (Name.mkNum `_private.Init.Data.Array.QSort.Basic 0 ++ f.getId)) xs)

theorem qpart_loop_perm {α} (lt : α → α → Bool) {n} (lo hi : Nat) (hhi : hi < n) (pivot : α) (as : Vector α n)
    (i k : Nat) (ilo : lo ≤ i) (ik : i ≤ k) (w : k ≤ hi) :
    ((qs% Array.qpartition.loop lt lo hi hhi pivot as i k ilo ik w).2).Perm as := by
  fun_induction (qs% Array.qpartition.loop lt lo hi hhi pivot as i k ilo ik w) with
  | case1 _ _ _ _ _ _ _ _ ih => exact ih.trans (Vector.swap_perm _ _)
  | case2 _ _ _ _ _ _ _ _ ih => exact ih
  | case3 => exact Vector.swap_perm (by omega) (by omega)

theorem qpartition_perm {α} (lt : α → α → Bool) {n} {as as' : Vector α n} {lo hi : Nat} {w : lo ≤ hi}
    {hlo : lo < n} {hhi : hi < n} {m} (hq : Array.qpartition as lt lo hi w hlo hhi = (m, as')) : as'.Perm as := by
  rw [← show (Array.qpartition as lt lo hi w hlo hhi).2 = as' from congrArg (·.2) hq]
  unfold Array.qpartition
  refine (qpart_loop_perm lt lo hi hhi ..).trans ?_
  have swp : ∀ (v : Vector α n) (c : Prop) [Decidable c] (i j : Nat) (hi : i < n) (hj : j < n),
      (if c then v.swap i j hi hj else v).Perm v := by
    intro v c _ i j hi hj
    split
    · exact Vector.swap_perm _ _
    · exact Vector.Perm.refl _
  exact (swp ..).trans ((swp ..).trans (swp ..))

theorem qsort_sort_perm {α} (lt : α → α → Bool) {n} (as : Vector α n) (lo hi : Nat) (w : lo ≤ hi)
    (hlo : lo < n) (hhi : hi < n) : (qs% Array.qsort.sort lt as lo hi w hlo hhi).Perm as := by
  fun_induction (qs% Array.qsort.sort lt as lo hi w hlo hhi) with
  | case1 _ _ _ _ _ _ _ _ _ _ hq => exact qpartition_perm lt hq
  | case2 _ _ _ _ _ _ _ _ _ _ hq _ _ ih ih' => exact (ih'.trans ih).trans (qpartition_perm lt hq)
  | case3 => exact .refl _

theorem qsort_perm {α} (as : Array α) (lt : α → α → Bool) : (as.qsort lt).Perm as := by
  unfold Array.qsort
  split
  · exact Array.Perm.refl _
  · exact (qsort_sort_perm lt ..).toArray

theorem mem_sortNodes (ns : List (Option Nat)) (a : Option Nat) : a ∈ sortNodes ns ↔ a ∈ ns := by
  unfold sortNodes
  simp only [Array.mem_toList_iff]
  rw [(qsort_perm _ _).mem_iff]
  simp

/-! ## The cycle search never runs out of fuel -/

/-- The recursion stack is duplicate free and made of nodes of the graph, so its length is bounded by
    the number of nodes; with `N.length + 1 ≤ fuel + stack.length` the fuel cannot reach 0. -/
theorem dfs_ne_none (edges : Edges) (N : List (Option Nat)) (hN : ∀ a b, Edge edges a b → b ∈ N)
    (f node stack) (hnd : (node :: stack).Nodup) (hsub : ∀ x ∈ node :: stack, x ∈ N)
    (hlen : N.length + 1 ≤ f + stack.length) : dfs edges f node stack ≠ none := by
  induction f generalizing node stack with
  | zero =>
    have := hnd.length_le_of_subset hsub
    simp only [List.length_cons] at this
    omega
  | succ f ih =>
    intro h
    obtain ⟨t, he, ht, hd⟩ := (dfs_cases edges f node stack).of_eq h
    exact ih t (node :: stack) (List.nodup_cons.mpr ⟨ht, hnd⟩)
      (List.forall_mem_cons.mpr ⟨hN _ _ he, hsub⟩) (by simp only [List.length_cons]; omega) hd

/-- `findCycle` always answers, and decides `HasCycle`. -/
theorem findCycle_spec (edges : Edges) : Ans (HasCycle edges) (¬ HasCycle edges) False (findCycle edges) := by
  unfold findCycle
  refine (scan_cases edges _ _ [] nofun).imp id ?_ ?_
  · rintro hs ⟨n, hn⟩
    obtain ⟨c, hc⟩ := hn.head_edge
    exact hs n (by rw [mem_sortNodes, List.mem_eraseDups]; exact List.mem_map.mpr ⟨(n, c), hc, rfl⟩)
      n (.inl rfl) hn
  · rintro ⟨n, hn, hd⟩
    rw [mem_sortNodes, List.mem_eraseDups] at hn
    refine dfs_ne_none edges (edges.map (·.1) ++ edges.map (·.2)).eraseDups ?_ _ n [] (by simp)
      (List.forall_mem_cons.mpr ⟨List.mem_eraseDups.mpr (List.mem_append_left _ hn), nofun⟩) (by omega) hd
    exact fun a b hab => List.mem_eraseDups.mpr (List.mem_append_right _ (List.mem_map.mpr ⟨(a, b), hab, rfl⟩))

/-! ## The package graph of the file system -/

/-- Paths (at least one edge) in the package graph. -/
inductive PkgPath (fs : FS) : Option Nat → Option Nat → Prop
  | single {a b} : PkgEdge fs a b → PkgPath fs a b
  | cons {a b c} : PkgEdge fs a b → PkgPath fs b c → PkgPath fs a c

theorem PkgPath.snoc {fs : FS} {a b c} (h1 : PkgPath fs a b) (h2 : PkgEdge fs b c) : PkgPath fs a c := by
  induction h1 with
  | single e => exact .cons e (.single h2)
  | cons e _ ih => exact .cons e (ih h2)

theorem path_iff_pkgPath {fs : FS} {edges : Edges} (h : ∀ a b, (a, b) ∈ edges ↔ PkgEdge fs a b) (a b) :
    Path edges a b ↔ PkgPath fs a b := by
  constructor <;> intro hp
  · induction hp with
    | single e => exact .single ((h _ _).mp e)
    | cons e _ ih => exact .cons ((h _ _).mp e) ih
  · induction hp with
    | single e => exact .single ((h _ _).mpr e)
    | cons e _ ih => exact .cons ((h _ _).mpr e) ih

/-- An import chain from the root to an existing file `t` is a path in the package graph. -/
theorem reachable_pkgPath {fs : FS} {root : SrcInfo} (h0 : fs[0]? = some root) {t} (ht : Reachable fs t) :
    ∀ {it}, fs[t]? = some it → PkgPath fs root.pkg it.pkg := by
  induction ht with
  | root hr hm =>
    intro it hit
    rw [h0] at hr; cases hr
    exact .single ⟨0, _, _, it, .inl rfl, h0, hm, hit, rfl, rfl⟩
  | step ha hab ih =>
    intro it hit
    obtain ⟨ia, hia, hb⟩ := hab
    exact (ih hia).snoc ⟨_, _, ia, it, .inr ha, hia, hb, hit, rfl, rfl⟩

/-! ## `resolveImports` -/

theorem resolveImports_error {fs : FS} {root : SrcInfo} {e} (h0 : fs[0]? = some root)
    (hw : worklist fs (worklistFuel fs root) (rootWork root) [] [] = .error e) (sep : Bool) :
    resolveImports fs sep = .err e := by
  cases hE : root.imports.isEmpty with
  | true => rw [rootWork, List.isEmpty_iff.mp hE] at hw; cases hw
  | false => simp only [resolveImports, h0, hE, hw, Bool.false_eq_true, if_false]

/-- `resolveImports` after a successful worklist run, `b` being the answer of the cycle search. (The
    shortcut it takes for a root without imports returns what the general path would.) -/
theorem resolveImports_ok {fs : FS} {root : SrcInfo} {imported edges b} (h0 : fs[0]? = some root)
    (hw : worklist fs (worklistFuel fs root) (rootWork root) [] [] = .ok (imported, edges))
    (hb : findCycle edges = some b) (sep : Bool) :
    resolveImports fs sep =
      if sep then
        if b then .err .cycle
        else if imported.any (fun i => (fs[i]?.bind (·.pkg)).isNone) then .err .noPkg else .ok (0 :: imported)
      else if imported.contains 0 then .err .validate else .ok (0 :: imported) := by
  simp only [resolveImports, h0]
  cases hE : root.imports.isEmpty with
  | true =>
    rw [rootWork, List.isEmpty_iff.mp hE] at hw
    cases hw
    cases hb -- `findCycle []` evaluates to `some false`
    cases sep <;> rfl
  | false =>
    simp only [hw, hb, Bool.false_eq_true, if_false]
    cases sep <;> cases b <;> rfl

/-- What `resolveImports` returns once everything resolved, `imported` being the transitively imported
    files: combined mode (`false`) rejects a root that is imported again; separate mode (`true`) rejects a
    cycle of the package graph, then an imported file without go_package. -/
inductive Emits (fs : FS) (imported : List Nat) : Bool → ImpOutcome → Prop
  | twice : 0 ∈ imported → Emits fs imported false (.err .validate)
  | combined : 0 ∉ imported → Emits fs imported false (.ok (0 :: imported))
  | cycle {n} : PkgPath fs n n → Emits fs imported true (.err .cycle)
  | noPkg {t} : (¬ ∃ n, PkgPath fs n n) → t ∈ imported → (fs[t]?.bind (·.pkg)) = none →
      Emits fs imported true (.err .noPkg)
  | separate : (¬ ∃ n, PkgPath fs n n) → 0 ∉ imported →
      (∀ t ∈ imported, ∃ i p, fs[t]? = some i ∧ i.pkg = some p) → Emits fs imported true (.ok (0 :: imported))

/-- `resolveImports` in the terms of the specification: `notFound` exactly if the root or a transitively
    imported file is missing; otherwise what `Emits` says of the transitively imported files. -/
theorem resolveImports_spec (fs : FS) (sep : Bool) :
    (fs[0]? = none ∨ ∃ t, Reachable fs t ∧ fs[t]? = none) ∧ resolveImports fs sep = .err .notFound ∨
    ∃ imported, Closure fs imported ∧ Emits fs imported sep (resolveImports fs sep) := by
  cases h0 : fs[0]? with
  | none => exact .inl ⟨.inl rfl, by simp only [resolveImports, h0]⟩
  | some root =>
    have hr := worklist_root h0
    cases hw : worklist fs (worklistFuel fs root) (rootWork root) [] [] with
    | error e =>
      rw [hw] at hr
      exact .inl ⟨.inr hr.2, hr.1 ▸ resolveImports_error h0 hw sep⟩
    | ok r =>
      obtain ⟨imported, edges⟩ := r
      rw [hw] at hr
      refine .inr ⟨imported, hr.1, ?_⟩
      match hb : findCycle edges, findCycle_spec edges with
      | none, hc => exact hc.elim
      | some b, hc =>
        have hcyc : HasCycle edges ↔ ∃ n, PkgPath fs n n := exists_congr fun n => path_iff_pkgPath hr.2 n n
        cases sep with
        | false =>
          simp only [resolveImports_ok h0 hw hb, Bool.false_eq_true, if_false]
          split <;> rename_i h
          · exact .twice (List.contains_iff_mem.mp h)
          · exact .combined (mt List.contains_iff_mem.mpr h)
        | true =>
          cases b with
          | true => exact resolveImports_ok h0 hw hb true ▸ .cycle (hcyc.mp hc).choose_spec
          | false =>
            have hc := mt hcyc.mpr hc
            simp only [resolveImports_ok h0 hw hb, Bool.false_eq_true, if_true, if_false]
            split <;> rename_i hany
            · obtain ⟨t, ht, hp⟩ := List.any_eq_true.mp hany
              exact .noPkg hc ht (Option.isNone_iff_eq_none.mp hp)
            · -- the root imported again would be a cycle through its own package
              refine .separate hc (fun hm => hc ⟨_, reachable_pkgPath h0 ((hr.1.mem 0).mp hm) h0⟩) fun t ht => ?_
              have hp : (fs[t]?.bind (·.pkg)) ≠ none := fun hp =>
                hany (List.any_eq_true.mpr ⟨t, ht, Option.isNone_iff_eq_none.mpr hp⟩)
              obtain ⟨p, hp⟩ := Option.ne_none_iff_exists'.mp hp
              obtain ⟨i, hi, hpk⟩ := Option.bind_eq_some_iff.mp hp
              exact ⟨i, p, hi, hpk⟩

/-- A graph whose edges all increase some rank has no cycle (used for concrete examples). -/
theorem no_cycle_of_rank (edges : Edges) (r : Option Nat → Nat) (h : ∀ e ∈ edges, r e.1 < r e.2) :
    ¬ HasCycle edges := by
  have hp : ∀ a b, Path edges a b → r a < r b := by
    intro a b hab
    induction hab with
    | single e => exact h _ e
    | cons e _ ih => exact Nat.lt_trans (h _ e) ih
  rintro ⟨n, hn⟩
  exact Nat.lt_irrefl _ (hp n n hn)

end Bebop.Text

