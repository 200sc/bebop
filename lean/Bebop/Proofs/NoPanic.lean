/-
  The checked (safe) byte-slice decoder on arbitrary input, in one walk over the decoder (`Safe`):
  * it never panics;
  * whenever it returns a value, the cursor has advanced by at least `Size()` of that value (`Adv`) — that is
    what keeps `at += tmp.Size()` inside the buffer.  `Size()` is the generated one, `gsize`: deprecated fields,
    which are decoded but not counted, only make it smaller than the bytes consumed;
  * it looks at no more of the buffer than it needs: whatever it answers on `buf` — unless it ran off the end
    (error) — it answers on `buf ++ ext`, with `ext` left unread behind.  The message loop needs the second
    point for this: its counter is the length of the body, and only a loop that eats a byte per turn never
    notices that a longer buffer gives it a larger counter.
-/
import Bebop.Proofs.Dec

namespace Bebop

/-- `r` is the answer on a buffer, `r'` the answer on the same buffer with `ext` behind it: `r` is no panic; a
    value it returns satisfies `Q` and is returned on the longer buffer too, with `ext` behind what `r` left
    unread; out of fuel stays out of fuel. -/
def Safe {α} (ext : List Byte) (Q : α × List Byte → Prop) (r r' : Res (α × List Byte)) : Prop :=
  match r with
  | .ok p => Q p ∧ r' = .ok (p.1, p.2 ++ ext)
  | .fuel => r' = .fuel
  | .err => True
  | .panic => False

theorem Safe.bind {α β} {ext : List Byte} {Q : α × List Byte → Prop} {Q' : β × List Byte → Prop}
    {r r' : Res (α × List Byte)} {k k' : α × List Byte → Res (β × List Byte)} (h : Safe ext Q r r')
    (hk : ∀ p, Q p → Safe ext Q' (k p) (k' (p.1, p.2 ++ ext))) : Safe ext Q' (r >>= k) (r' >>= k') := by
  cases r with
  | ok p => obtain ⟨hq, rfl⟩ := h; exact hk p hq
  | fuel => cases h; rfl
  | err => trivial
  | panic => exact h

theorem Safe.mono {α} {ext : List Byte} {Q Q' : α × List Byte → Prop} {r r' : Res (α × List Byte)}
    (h : Safe ext Q r r') (hq : ∀ p, Q p → Q' p) : Safe ext Q' r r' := by
  cases r with
  | ok p => exact ⟨hq p h.1, h.2⟩
  | _ => exact h

theorem Safe.ne_panic {α} {ext : List Byte} {Q : α × List Byte → Prop} {r r' : Res (α × List Byte)}
    (h : Safe ext Q r r') : r ≠ .panic := by
  rintro rfl; exact h

theorem Safe.of_ok {α} {ext : List Byte} {Q : α × List Byte → Prop} {r r' : Res (α × List Byte)} {p : α × List Byte}
    (h : Safe ext Q r r') (hr : r = .ok p) : Q p ∧ r' = .ok (p.1, p.2 ++ ext) := by
  subst hr; exact h

theorem length_le_append (buf ext : List Byte) : buf.length ≤ (buf ++ ext).length :=
  List.length_append ▸ Nat.le_add_right ..

/-- Behind a cursor that moved by `n`, at least `g ≤ n` bytes are accounted for. -/
theorem length_drop_add {g n : Nat} {buf : List Byte} (hg : g ≤ n) (h : n ≤ buf.length) : (buf.drop n).length + g ≤ buf.length := by
  rw [List.length_drop]; omega

theorem readN_safe (ext : List Byte) (n : Nat) (buf : List Byte) :
    Safe ext (fun p => p.1.length = n ∧ p.2.length + n ≤ buf.length) (readN true n buf) (readN true n (buf ++ ext)) := by
  unfold readN
  by_cases h : n ≤ buf.length
  · rw [if_pos h, if_pos (Nat.le_trans h (length_le_append ..)), List.take_append_of_le_length h, List.drop_append_of_le_length h]
    exact ⟨⟨List.length_take_of_le h, length_drop_add (Nat.le_refl n) h⟩, rfl⟩
  · rw [if_neg h]; trivial

theorem readU32_safe (ext : List Byte) (buf : List Byte) :
    Safe ext (fun p => p.2.length + 4 ≤ buf.length) (readU32 true buf) (readU32 true (buf ++ ext)) :=
  (readN_safe ext 4 buf).bind fun _ h => ⟨h.2, rfl⟩

/-- `Safe`, with: a returned value's size is covered by the bytes consumed. -/
abbrev Adv (ext : List Byte) (env : Env) (ty : Ty) (buf : List Byte) : (r r' : Res (Val × List Byte)) → Prop :=
  Safe ext fun p => p.2.length + gsize env ty p.1 ≤ buf.length

/-- Coverage composes: `x` is covered between lengths `a` and `b`, `y` between `b` and `c`. -/
theorem cov_trans {a b c x y : Nat} (h1 : b + x ≤ a) (h2 : c + y ≤ b) : c + (x + y) ≤ a := by omega

section Loops
variable (ext : List Byte) (env : Env)

theorem decN_safe (t : Ty) (d : Dec) (hd : ∀ buf, Adv ext env t buf (d buf) (d (buf ++ ext))) (n : Nat) (buf : List Byte) :
    Safe ext (fun p => p.2.length + gsizeList env t p.1 ≤ buf.length) (decN d n buf) (decN d n (buf ++ ext)) := by
  induction n generalizing buf with
  | zero => exact ⟨Nat.le_refl _, rfl⟩
  | succ n ih =>
    refine (hd buf).bind fun p h1 => ?_
    simp only [List.length_append, Nat.add_right_cancel_iff]
    split
    · rfl
    · exact (ih p.2).bind fun q h2 => ⟨cov_trans h1 h2, rfl⟩

theorem decFields_safe (d : Ty → Dec) (hd : ∀ t buf, Adv ext env t buf (d t buf) (d t (buf ++ ext))) (tys : List Ty)
    (buf : List Byte) :
    Safe ext (fun p => p.2.length + gsizeStruct env tys p.1 ≤ buf.length) (decFields d tys buf) (decFields d tys (buf ++ ext)) := by
  induction tys generalizing buf with
  | nil => exact ⟨Nat.le_refl _, rfl⟩
  | cons t ts ih => exact (hd t buf).bind fun p h1 => (ih p.2).bind fun q h2 => ⟨cov_trans h1 h2, rfl⟩

/-- Assigning to a map adds no more to `Size()` than a new entry would: overwriting only removes what was there. -/
theorem gsizeKVs_mapInsert (kty t : Ty) (kt : Ty) (k v : Val) (acc : List (Val × Val)) :
    gsizeKVs env kty t (mapInsert kt k v acc) ≤ gsize env kty k + gsize env t v + gsizeKVs env kty t acc := by
  induction acc with
  | nil => exact Nat.le_refl _
  | cons a acc ih =>
    simp only [mapInsert]
    split
    · exact Nat.add_le_add_left (Nat.le_add_left ..) _
    · simp only [gsizeKVs]; rw [Nat.add_left_comm]; exact Nat.add_le_add_left ih _

/-- The same for a message field (which counts nothing at all if it is deprecated: `gfield`). -/
theorem gsizeFields_msgSet (fds : List MsgField) (i : Nat) (v : Val) (acc : List (Nat × Val)) :
    gsizeFields env fds (msgSet i v acc) ≤ gfield env fds i v + gsizeFields env fds acc := by
  induction acc with
  | nil => exact Nat.le_of_eq (gsizeFields_cons ..)
  | cons a acc ih =>
    obtain ⟨j, w⟩ := a
    simp only [msgSet]
    split
    · exact Nat.le_of_eq (gsizeFields_cons ..)
    · split <;> simp only [gsizeFields_cons]
      · exact Nat.add_le_add_left (Nat.le_add_left ..) _
      · rw [Nat.add_left_comm]; exact Nat.add_le_add_left ih _

theorem decEntries_safe (kty t : Ty) (kt : Ty) (dk dv : Dec) (hk : ∀ buf, Adv ext env kty buf (dk buf) (dk (buf ++ ext)))
    (hv : ∀ buf, Adv ext env t buf (dv buf) (dv (buf ++ ext))) (n : Nat) (buf : List Byte) (acc : List (Val × Val)) :
    Safe ext (fun p => p.2.length + gsizeKVs env kty t p.1 ≤ buf.length + gsizeKVs env kty t acc)
      (decEntries kt dk dv n buf acc) (decEntries kt dk dv n (buf ++ ext) acc) := by
  induction n generalizing buf acc with
  | zero => exact ⟨Nat.le_refl _, rfl⟩
  | succ n ih =>
    refine (hk buf).bind fun p h1 => (hv p.2).bind fun q h2 => (ih q.2 _).mono fun z h3 => ?_
    have := gsizeKVs_mapInsert env kty t kt p.1 q.1 acc
    omega

/-- The loop's own counter (`n`, the length of the body plus one) never runs out, because every turn eats
    a byte; so a longer body, with its larger counter `n'`, makes no difference.  The `1` is the byte the loop
    stops at. -/
theorem decMsgLoop_safe (d : Ty → Dec) (hd : ∀ t buf, Adv ext env t buf (d t buf) (d t (buf ++ ext))) (fds : List MsgField)
    (n n' : Nat) (buf : List Byte) (acc : List (Nat × Val)) (h : buf.length < n) (h' : n ≤ n') :
    Safe ext (fun p => 1 + gsizeFields env fds p.1 ≤ buf.length + gsizeFields env fds acc)
      (decMsgLoop true d fds n buf acc) (decMsgLoop true d fds n' (buf ++ ext) acc) := by
  induction n generalizing n' buf acc with
  | zero => cases h
  | succ n ih =>
    cases n' with
    | zero => cases h'
    | succ n' =>
    cases buf with
    | nil => trivial
    | cons b rest =>
      simp only [decMsgLoop, List.cons_append]
      split
      · exact ⟨Nat.add_le_add_right (Nat.succ_pos _) _, rfl⟩
      · next fd hfd =>
        refine (hd fd.ty rest).bind fun p h1 =>
          (ih n' p.2 _ (Nat.lt_of_le_of_lt (Nat.le_of_add_right_le h1) (Nat.lt_of_succ_lt_succ h))
            (Nat.le_of_succ_le_succ h')).mono fun z h2 => ?_
        have := gsizeFields_msgSet env fds fd.idx p.1 acc
        have := gfield_le env fds fd.idx p.1 fd (find_msgField fds b.toNat fd hfd ▸ hfd)
        simp only [List.length_cons]; omega

end Loops

theorem gsize_primVal (env : Env) {t : Ty} {s : Nat} (hs : fixedSize t = some s) (bs : List Byte) :
    gsize env t (primVal t bs) = s := by
  cases t <;> cases hs <;> rfl

/-- Behind a checked count, reading the elements of a fixed-size type unchecked is reading them checked. -/
theorem decN_unchecked {t : Ty} {s : Nat} (hs : fixedSize t = some s) (f : Nat) (env : Env) (n : Nat) (buf : List Byte)
    (h : n * s ≤ buf.length) : decN (dec f env false t) n buf = decN (dec f env true t) n buf := by
  cases f with
  | zero => cases n <;> rfl
  | succ f =>
    induction n generalizing buf with
    | zero => rfl
    | succ n ih =>
      rw [Nat.succ_mul] at h
      simp only [decN, dec_fixed hs, readN, Nat.le_trans (Nat.le_add_left ..) h, if_true, Res.ok_bind, Res.pure_eq]
      rw [ih (buf.drop s) (by rw [List.length_drop]; exact Nat.le_sub_of_add_le h)]

theorem skipPrefixed_safe (ext : List Byte) {hdr : Nat} (h4 : 4 ≤ hdr) (G : Val → Nat) (buf : List Byte) (v : Val) :
    Safe ext (fun q => q.2.length + G q.1 ≤ buf.length)
      (skipPrefixed hdr true (G v) buf v) (skipPrefixed hdr true (G v) (buf ++ ext) v) := by
  simp only [skipPrefixed, if_true]
  split
  · next h =>
    -- the prefix lies inside `buf`, so the longer buffer has the same
    rw [List.take_append_of_le_length (Nat.le_trans h4 (Nat.le_of_add_right_le (Nat.max_le.mp h).1)),
      if_pos (Nat.le_trans h (length_le_append ..)), List.drop_append_of_le_length h]
    exact ⟨length_drop_add (Nat.le_max_right ..) h, rfl⟩
  · trivial

theorem advance_safe (ext : List Byte) (env : Env) (n : Nat) (buf : List Byte) (v : Val) (h : gsize env (.ref n) v ≤ buf.length) :
    Adv ext env (.ref n) buf (advance env true n buf v) (advance env true n (buf ++ ext) v) := by
  unfold advance
  split
  · trivial
  · rw [if_pos h, if_pos (Nat.le_trans h (length_le_append ..)), List.drop_append_of_le_length h]
    exact ⟨length_drop_add (Nat.le_refl _) h, rfl⟩
  · exact skipPrefixed_safe ext (by decide) _ buf v
  · exact skipPrefixed_safe ext (by decide) _ buf v

/-- A record body: only the size bound matters to the caller (it discards the returned rest). -/
theorem decRecord_safe (ext : List Byte) (env : Env) (f : Nat)
    (hd : ∀ m ≤ f, ∀ ty buf, Adv ext env ty buf (dec m env true ty buf) (dec m env true ty (buf ++ ext))) (n : Nat)
    (buf : List Byte) :
    Safe ext (fun p => gsize env (.ref n) p.1 ≤ buf.length) (decRecord f env true n buf) (decRecord f env true n (buf ++ ext)) := by
  unfold decRecord
  split
  · trivial
  · next tys hn =>
    refine (decFields_safe ext env _ (hd f (Nat.le_refl f)) tys buf).bind fun p h => ⟨?_, rfl⟩
    simp only [gsize, hn]; exact Nat.le_trans (Nat.le_add_left ..) h
  · next fds hn =>
    cases f with
    | zero => exact (rfl : Res.fuel = _)
    | succ f =>
      refine (readN_safe ext 4 buf).bind fun p hl =>
        (decMsgLoop_safe ext env _ (hd f (Nat.le_succ f)) fds _ _ p.2 [] (Nat.lt_succ_self _)
          (Nat.succ_le_succ (length_le_append ..))).bind fun q h => ⟨?_, rfl⟩
      simp only [gsize, hn, gsizeFields, Facts.msgSizeBase] at h ⊢; omega
  · next brs hn =>
    cases f with
    | zero => exact (rfl : Res.fuel = _)
    | succ f =>
      refine (readN_safe ext 4 buf).bind fun p hl => ?_
      rcases p with ⟨_, _ | ⟨b, rest⟩⟩
      · trivial
      · simp only [List.cons_append, List.length_cons] at hl ⊢
        split
        · -- `vsize emptyUnion` is 5, and 5 bytes have been read
          exact ⟨Nat.le_trans (gsize_le_vsize env emptyUnion (.ref n)) (Nat.le_trans (Nat.le_add_left 5 _) hl.2), rfl⟩
        · next m hm =>
          refine (hd f (Nat.le_succ f) (.ref m) rest).bind fun q h => ⟨?_, rfl⟩
          simp only [gsize, hn, hm, Facts.unionSizeBase]; omega

theorem dec_safe (ext : List Byte) (env : Env) (f : Nat) (ty : Ty) (buf : List Byte) :
    Adv ext env ty buf (dec f env true ty buf) (dec f env true ty (buf ++ ext)) := by
  induction f using Nat.strongRecOn generalizing ty buf with
  | ind f ih =>
  cases f with
  | zero => exact (rfl : Res.fuel = _)
  | succ f =>
  have ihf := ih f (Nat.lt_succ_self f)
  cases hfx : fixedSize ty with
  | some s =>
    rw [dec_fixed hfx, dec_fixed hfx]
    refine (readN_safe ext s buf).bind fun p hl => ⟨?_, rfl⟩
    simp only [gsize_primVal env hfx]; exact hl.2
  | none =>
  cases ty with
  | bool | scalar | f32 | f64 | date | guid => cases hfx
  | str =>
    refine (readU32_safe ext buf).bind fun p hl => (readN_safe ext p.1 p.2).bind fun q hl' => ⟨?_, rfl⟩
    simp only [gsize]; omega
  | arr t =>
    refine (readU32_safe ext buf).bind fun p hl => ?_
    cases hs : fixedSize t with
    | none => exact (decN_safe ext env t _ (ihf t) p.1 p.2).bind fun q h => ⟨cov_trans hl h, rfl⟩
    | some s =>
      by_cases h : p.2.length < p.1 * s
      · simp only [if_true, if_pos h]; trivial
      · have h1 := Nat.le_of_not_lt h
        have h2 := Nat.le_trans h1 (length_le_append p.2 ext)
        simp only [if_true, if_neg h, if_neg (Nat.not_lt.mpr h2), decN_unchecked hs f env p.1 _ h1, decN_unchecked hs f env p.1 _ h2]
        exact (decN_safe ext env t _ (ihf t) p.1 p.2).bind fun q h => ⟨cov_trans hl h, rfl⟩
  | map k v =>
    exact (readU32_safe ext buf).bind fun p hl =>
      (decEntries_safe ext env k v k _ _ (ihf k) (ihf v) p.1 p.2 []).bind fun q h => ⟨cov_trans hl h, rfl⟩
  | ref n =>
    rw [dec_ref, dec_ref]
    exact (decRecord_safe ext env f (fun m hm => ih m (Nat.lt_succ_of_le hm)) n buf).bind fun p h => advance_safe ext env n buf p.1 h

/-- Top-level records never make the checked decoder panic. -/
theorem unmarshal_no_panic (env : Env) (f n : Nat) (buf : List Byte) :
    unmarshal f env true n buf ≠ .panic := by
  have := (decRecord_safe [] env f (fun m _ => dec_safe [] env m) n buf).ne_panic
  rw [unmarshal_eq]
  cases h : decRecord f env true n buf <;> simp_all

end Bebop
