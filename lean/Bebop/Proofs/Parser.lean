/-
  The ReadFile model: one specification per parser function, from which ReadFile never panics, never runs out of
  the fuel it supplies itself, and reports success only at the clean end of the input.

  `PresP m`: the action `m` changes the token reader only through the tokenizer, so whatever the tokenizer
  preserves (`Rel`: no new panic, the reader's ending) holds on every exit.  `PT.Ok m t Q`: run at `t`, `m` does not
  answer `fuel`, and a returned value and state satisfy `Q`.  `Sp fuel m t Q` is the two in one, under the
  assumption that `fuel` is enough for what is left of the input at `t` (which it then is again wherever `m`
  returns, since no action gives input back).  Every function of Parser.lean gets one specification in this form,
  with a postcondition about one number: the tokenizer measure `mu` (TokenizerProgress: `2 * |remaining| + [keep]`)
  moves by a stated amount.  `Next` never raises `mu` and lowers it when it returns true; `UnNext` raises it by at
  most 1.  Every loop iteration of the parser contains a `Next` whose `true` result is checked (otherwise the loop
  returns an error) and, between two such checks, at most one net `UnNext` (`optNewline`,
  `skipEndOfLineComments`, the `[]` loop of `readFieldType`, the un-read in front of a struct field type and of
  `opcode`) — so `mu` strictly decreases from iteration to iteration, a loop started with a counter `> mu` never
  reaches 0, and a loop started with the full fuel has such a counter (`Sp.full`).  The `sp` tactic does the
  symbolic execution, one syntactic rule per construct; what it leaves is linear arithmetic over `mu`.
  (`wp [s₁, …]` is the same engine for the `Ok` half alone, over the `Ok_*` rules; the specifications below need
  the `PRel` half too, so they are all run by `sp`.)

  Unlike format.go, parse.go has no place where a failed `Next` is followed by an `UnNext` inside a loop that
  does not check a later `Next`: `optNewline` can raise `mu` by one at the end of the input, but every loop
  that follows it begins with a checked `Next`.
-/
import Bebop.Text.Parser
import Bebop.Proofs.TokenizerProgress

namespace Bebop.Text

/-- What the tokenizer guarantees across any number of `Next` calls: the `pan` and `io` fields of `Fwd`.  Not `Fwd`
    itself: `pUnNext` sets `keep` (against `Fwd.keep`); the error list is of no concern here, and "no input given
    back" travels in `Sp.run`, beside the fuel bound it serves. -/
def Rel (t t' : TR) : Prop := (t.panicked = false → t'.panicked = false) ∧ t'.ioFail = t.ioFail

theorem Rel.refl (t : TR) : Rel t t := ⟨id, rfl⟩
theorem Rel.trans {a b c : TR} (h1 : Rel a b) (h2 : Rel b c) : Rel a c :=
  ⟨fun h => h2.1 (h1.1 h), by rw [h2.2, h1.2]⟩

/-- `Rel` from `t` to the state a run ended in, whatever the exit; nothing is asked of `fuel`, which has no state. -/
def PRel {α} (t : TR) : PR α → Prop
  | .ok _ t' => Rel t t'
  | .err t' => Rel t t'
  | .decline t' => Rel t t'
  | .fuel => True

/-- The action `m` changes the reader only in ways the tokenizer does: `PRel` from every start state. -/
def PresP {α} (m : P α) : Prop := ∀ t, PRel t (m t)

theorem P.bind_apply {α β} (m : P α) (k : α → P β) (t : TR) : (m >>= k) t =
    match m t with | .ok a t' => k a t' | .err t' => .err t' | .fuel => .fuel | .decline t' => .decline t' := rfl

theorem presP_pure {α} (a : α) : PresP (pure a : P α) := fun t => Rel.refl t
theorem presP_fail {α} : PresP (fail : P α) := fun t => Rel.refl t
theorem presP_declined {α} : PresP (declined : P α) := fun t => Rel.refl t
theorem presP_outOfFuel {α} : PresP (outOfFuel : P α) := fun _ => trivial
theorem presP_pTok : PresP pTok := fun t => Rel.refl t
theorem presP_pHasErr : PresP pHasErr := fun t => Rel.refl t
theorem presP_getTR : PresP getTR := fun t => Rel.refl t
theorem presP_pUnNext : PresP pUnNext := fun _ => ⟨id, rfl⟩
theorem presP_setKeep : PresP (fun t => PR.ok () { t with keep := false } : P Unit) := fun _ => ⟨id, rfl⟩

theorem PRel.bind {α β} {m : P α} {k : α → P β} {t : TR} (hm : PRel t (m t))
    (hk : ∀ a t1, m t = .ok a t1 → PRel t1 (k a t1)) : PRel t ((m >>= k) t) := by
  rw [P.bind_apply]
  cases hr : m t with
  | ok a t1 =>
    rw [hr] at hm
    have h2 := hk a t1 hr
    show PRel t (k a t1)
    cases hr2 : k a t1 with
    | fuel => trivial
    | _ => rw [hr2] at h2; exact Rel.trans hm h2
  | fuel => trivial
  | _ => rw [hr] at hm; exact hm

theorem presP_bind {α β} (m : P α) (k : α → P β) (hm : PresP m) (hk : ∀ a, PresP (k a)) : PresP (m >>= k) :=
  fun t => (hm t).bind fun a t1 _ => hk a t1

theorem presP_pNext : PresP pNext := fun t => ⟨(next_fwd t).pan, (next_fwd t).io⟩

namespace PT

/-- Weakest-precondition form of "running `m` at `t` does not run out of fuel, and if it returns a value
    then `Q` holds of the value and the new reader state". -/
def Ok {α} (m : P α) (t : TR) (Q : α → TR → Prop) : Prop :=
  match m t with
  | .ok a t' => Q a t'
  | .fuel => False
  | _ => True

theorem Ok_pure {α} (a : α) (t : TR) (Q : α → TR → Prop) : Ok (pure a : P α) t Q = Q a t := rfl
theorem Ok_fail {α} (t : TR) (Q : α → TR → Prop) : Ok (fail : P α) t Q := trivial
theorem Ok_declined {α} (t : TR) (Q : α → TR → Prop) : Ok (declined : P α) t Q := trivial
theorem Ok_pTok (t : TR) (Q : Token → TR → Prop) : Ok pTok t Q = Q t.nextTok t := rfl
theorem Ok_pHasErr (t : TR) (Q : Bool → TR → Prop) : Ok pHasErr t Q = Q (hasErr t) t := rfl

theorem Ok_bind {α β} (m : P α) (k : α → P β) (t : TR) (Q : β → TR → Prop) :
    Ok (m >>= k) t Q = Ok m t (fun a t1 => Ok (k a) t1 Q) := by
  unfold Ok
  rw [P.bind_apply]
  cases m t <;> rfl

theorem Ok_mono {α} {m : P α} {t : TR} {R Q : α → TR → Prop} (h : Ok m t R) (hq : ∀ a t', R a t' → Q a t') :
    Ok m t Q := by
  unfold Ok at h ⊢
  cases hr : m t with
  | ok a t' => rw [hr] at h; exact hq a t' h
  | fuel => rw [hr] at h; exact h
  | _ => trivial

theorem Ok_pNext {t : TR} {Q : Bool → TR → Prop}
    (hf : ∀ t', t'.inp.length ≤ t.inp.length → mu t' ≤ mu t → Q false t')
    (ht : ∀ t', t'.inp.length ≤ t.inp.length → mu t' + 1 ≤ mu t → Q true t') : Ok pNext t Q := by
  show Q (next t).1 (next t).2
  have h1 := next_len_le t
  have h2 := next_measure t
  cases hr : (next t).1
  · exact hf _ h1 h2.1
  · exact ht _ h1 (h2.2 hr)

theorem Ok_pUnNext {t : TR} {Q : Unit → TR → Prop}
    (h : ∀ t', t'.inp.length ≤ t.inp.length → mu t' ≤ mu t + 1 → Q () t') : Ok pUnNext t Q := by
  show Q () { t with keep := true }
  refine h _ (Nat.le_refl _) ?_
  have := le_mu t; rw [mu_unNext]; omega

theorem Ok_setKeep {t : TR} {Q : Unit → TR → Prop}
    (h : ∀ t', t'.inp.length ≤ t.inp.length → mu t' ≤ mu t → Q () t') :
    Ok (fun t => PR.ok () { t with keep := false } : P Unit) t Q := by
  show Q () { t with keep := false }
  exact h _ (Nat.le_refl _) (le_mu t)

theorem Ok_ite {α} {c : Prop} [Decidable c] {a b : P α} {t : TR} {Q : α → TR → Prop}
    (h1 : c → Ok a t Q) (h2 : ¬ c → Ok b t Q) : Ok (if c then a else b) t Q :=
  iteInduction (motive := (Ok · t Q)) h1 h2

theorem Ok_setKeep_bind {β} {k : Unit → P β} {t : TR} {Q : β → TR → Prop}
    (h : ∀ t', t'.inp.length ≤ t.inp.length → mu t' ≤ mu t → Ok (k ()) t' Q) :
    Ok ((fun t => PR.ok () { t with keep := false } : P Unit) >>= k) t Q := by
  show Ok (k ()) { t with keep := false } Q
  exact h _ (Nat.le_refl _) (le_mu t)

/-- apply the spec `s` of a callee, discharge its precondition by arithmetic, continue with its post -/
macro "wp_call " s:term : tactic => `(tactic| (
  apply Ok_mono
  next => ((apply $s) <;> (first | trivial | omega))
  intro _ _ hpost
  try dsimp only at hpost ⊢
  try simp only [List.length_cons, List.length_nil] at hpost))

open Lean in
/-- Symbolic execution of a parser action in `Ok` form; `wp [s₁, …]` knows the specs `sᵢ` of the callees. -/
macro "wp" "[" ss:term,* "]" : tactic => do
  let calls ← ss.getElems.mapM fun s => `(tacticSeq| wp_call $s)
  let pre := #[
    ← `(tacticSeq| exact Ok_fail _ _),
    ← `(tacticSeq| exact Ok_declined _ _),
    ← `(tacticSeq| (refine Ok_setKeep_bind ?_; intro _ _ _; try dsimp only)),
    ← `(tacticSeq| rw [Ok_bind]),
    ← `(tacticSeq| (rw [Ok_pure]; try dsimp only)),
    ← `(tacticSeq| (rw [Ok_pTok]; try dsimp only)),
    ← `(tacticSeq| (rw [Ok_pHasErr]; try dsimp only)),
    ← `(tacticSeq| (refine Ok_pNext ?_ ?_ <;> (intro _ _ _; try dsimp only))),
    ← `(tacticSeq| (refine Ok_pUnNext ?_; intro _ _ _; try dsimp only)),
    ← `(tacticSeq| (refine Ok_setKeep ?_; intro _ _ _; try dsimp only))]
  let post := #[
    ← `(tacticSeq| (refine Ok_ite ?_ ?_ <;> intro _)),
    ← `(tacticSeq| simp only [Bool.not_true, Bool.not_false, Bool.false_eq_true, if_true, if_false]),
    ← `(tacticSeq| split),
    ← `(tacticSeq| omega),
    ← `(tacticSeq| exact ⟨by omega, by omega⟩),
    ← `(tacticSeq| trivial)]
  let alts := pre ++ calls ++ post
  `(tactic| repeat' (first $[| $alts]*))

end PT

/-! ## `PresP` and `Ok` in one: the calculus -/

/-- The one specification form of a parser action.  Run at a reader state `t` for whose remaining input the loop
    fuel `fuel` is enough, the action `m` keeps the tokenizer's guarantees on every exit (`PRel`), does not answer
    `fuel`, and when it returns it has given no input back — so that `fuel` is enough again — and `Q` holds of the
    value and the new state (`Ok`).  (A structure, so that no tactic unfolds it into the run of `m`.) -/
structure Sp (fuel : Nat) {α} (m : P α) (t : TR) (Q : α → TR → Prop) : Prop where
  run : 2 * t.inp.length + 2 ≤ fuel →
    PRel t (m t) ∧ PT.Ok m t fun a t' => t'.inp.length ≤ t.inp.length ∧ Q a t'

/-- `mu` moved by at most `b - a` -/
abbrev Mu {α} (a b : Nat) (t : TR) : α → TR → Prop := fun _ t' => mu t' + a ≤ mu t + b

namespace Sp
open PT
variable {fuel : Nat} {α β : Type} {t : TR} {Q : α → TR → Prop}

theorem pure {a : α} (h : Q a t) : Sp fuel (pure a) t Q := ⟨fun _ => ⟨presP_pure a t, Nat.le_refl _, h⟩⟩
theorem fail : Sp fuel (fail : P α) t Q := ⟨fun _ => ⟨presP_fail t, Ok_fail ..⟩⟩
theorem declined : Sp fuel (declined : P α) t Q := ⟨fun _ => ⟨presP_declined t, Ok_declined ..⟩⟩
theorem tok {Q : Token → TR → Prop} (h : Q t.nextTok t) : Sp fuel pTok t Q :=
  ⟨fun _ => ⟨presP_pTok t, Nat.le_refl _, h⟩⟩
theorem hasErr {Q : Bool → TR → Prop} (h : Q (Text.hasErr t) t) : Sp fuel pHasErr t Q :=
  ⟨fun _ => ⟨presP_pHasErr t, Nat.le_refl _, h⟩⟩

/-- `Rel` composes by `Rel.trans`, "no input given back" by transitivity — which also hands the fuel bound on to
    the continuation; neither shows in the rule. -/
theorem bind {m : P α} {k : α → P β} {Q : β → TR → Prop}
    (h : Sp fuel m t fun a t' => Sp fuel (k a) t' Q) : Sp fuel (m >>= k) t Q := by
  refine ⟨fun hF => ?_⟩
  obtain ⟨h1, h2⟩ := h.run hF
  have key : ∀ a t1, m t = .ok a t1 → PRel t1 (k a t1) ∧
      Ok (k a) t1 fun b t' => t'.inp.length ≤ t.inp.length ∧ Q b t' := fun a t1 hr => by
    unfold Ok at h2; rw [hr] at h2
    have h3 := h2.2.run (by omega)
    exact ⟨h3.1, Ok_mono h3.2 fun _ _ h => ⟨by omega, h.2⟩⟩
  refine ⟨h1.bind fun a t1 hr => (key a t1 hr).1, ?_⟩
  rw [Ok_bind]
  unfold Ok
  cases hr : m t with
  | ok a t1 => exact (key a t1 hr).2
  | fuel => unfold Ok at h2; rw [hr] at h2; exact h2
  | _ => trivial

theorem mono {m : P α} {R : α → TR → Prop} (h : Sp fuel m t R) (hq : ∀ a t', R a t' → Q a t') : Sp fuel m t Q :=
  ⟨fun hF => ⟨(h.run hF).1, Ok_mono (h.run hF).2 fun a t' h => ⟨h.1, hq a t' h.2⟩⟩⟩

/-- a loop called with the full fuel has a counter above `mu` -/
theorem full {m : P α} (h : mu t < fuel → Sp fuel m t Q) : Sp fuel m t Q :=
  ⟨fun hF => (h (by have := mu_le t; omega)).run hF⟩

theorem ite {c : Prop} [Decidable c] {a b : P α} (h1 : c → Sp fuel a t Q) (h2 : ¬ c → Sp fuel b t Q) :
    Sp fuel (if c then a else b) t Q :=
  iteInduction (motive := (Sp fuel · t Q)) h1 h2

/-- In the false branch the answer of `Next` itself is at hand: carried through `Ok_pNext` in the postcondition. -/
theorem next {Q : Bool → TR → Prop} (hf : ∀ t', Text.next t = (false, t') → mu t' ≤ mu t → Q false t')
    (ht : ∀ t', mu t' + 1 ≤ mu t → Q true t') : Sp fuel pNext t Q :=
  ⟨fun _ => ⟨presP_pNext t,
    Ok_pNext (Q := fun b t' => Text.next t = (b, t') → t'.inp.length ≤ t.inp.length ∧ Q b t')
      (fun t' hl hm he => ⟨hl, hf t' he hm⟩) (fun t' hl hm _ => ⟨hl, ht t' hm⟩) rfl⟩⟩

/-- the check of `Next`'s result, once the result is known -/
theorem notFalse {a b : P α} (h : Sp fuel a t Q) : Sp fuel (if (!false) = true then a else b) t Q := h
theorem notTrue {a b : P α} (h : Sp fuel b t Q) : Sp fuel (if (!true) = true then a else b) t Q := h

theorem unNext {Q : Unit → TR → Prop} (h : ∀ t', mu t' ≤ mu t + 1 → Q () t') : Sp fuel pUnNext t Q :=
  ⟨fun _ => ⟨presP_pUnNext t, Ok_pUnNext fun t' hl hm => ⟨hl, h t' hm⟩⟩⟩

/-- stated on the bind: the action is a bare `fun`, whose type is `P Unit` only up to unfolding `P` -/
theorem setKeep {k : Unit → P β} {Q : β → TR → Prop} (h : ∀ t', mu t' ≤ mu t → Sp fuel (k ()) t' Q) :
    Sp fuel ((fun t => PR.ok () { t with keep := false } : P Unit) >>= k) t Q :=
  .bind ⟨fun _ => ⟨presP_setKeep t, Ok_setKeep fun t' hl hm => ⟨hl, h t' hm⟩⟩⟩

/-- cut at an inline compound action in bind position: it does not raise `mu`; the continuation is run once, not
    once per branch -/
theorem cut {m : P α} {k : α → P β} {Q : β → TR → Prop} (hm : Sp fuel m t (Mu 0 0 t))
    (hk : ∀ a t', mu t' ≤ mu t → Sp fuel (k a) t' Q) : Sp fuel m t fun a t' => Sp fuel (k a) t' Q :=
  hm.mono fun a t' h => hk a t' (by simpa using h)

end Sp

/-- Symbolic execution of a parser action in `Sp` form, one syntactic rule per construct (reducible unification
    only: a failed match must not unfold the parser); `sp [s₁, …]` knows the specifications `sᵢ` of the callees:
    one of them under `Sp.mono`, its precondition by arithmetic, then on with its postcondition.  The alternatives
    stand in the order of how often they apply: a failing one is not cheaper than a succeeding one. -/
macro "sp" "[" ss:term,* "]" : tactic =>
  `(tactic| repeat' (first
    | with_reducible apply Sp.bind
    | (with_reducible apply Sp.pure) <;> try omega
    | with_reducible exact Sp.fail
    | with_reducible apply Sp.notTrue
    | with_reducible apply Sp.notFalse
    | (with_reducible apply Sp.ite) <;> intros
    | (with_reducible apply Sp.mono
       next => first $[| (with_reducible apply $ss) <;> omega]*
       intro _ _ hpost
       try simp only [List.length_cons, List.length_nil] at hpost)
    | with_reducible apply Sp.tok
    | (with_reducible apply Sp.next) <;> intros
    | (with_reducible apply Sp.unNext) <;> intros
    | with_reducible exact Sp.declined
    | with_reducible apply Sp.hasErr
    | (with_reducible apply Sp.setKeep) <;> intros
    | (with_reducible apply Sp.cut) <;> intros
    | split
    | omega))

/-! ## Specifications -/

variable {fuel : Nat}

theorem sp_expectAnyOf (ks : List TK) (t : TR) : Sp fuel (expectAnyOf ks) t (Mu 1 0 t) := by
  unfold expectAnyOf
  sp []

theorem sp_expectSeq : ∀ (ks : List TK) (t : TR), Sp fuel (expectSeq ks) t (Mu ks.length 0 t)
  | [], t => .pure (Nat.le_refl _)
  | k :: ks, t => by
    unfold expectSeq
    simp only [List.length_cons]
    sp [sp_expectSeq ks]

theorem sp_optNewline (t : TR) : Sp fuel optNewline t (Mu 0 1 t) := by
  unfold optNewline
  sp []

theorem sp_skipEolLoop : ∀ (f : Nat) (t : TR), mu t < f → Sp fuel (skipEolComments f) t (Mu 0 0 t)
  | 0, _, h => by omega
  | f+1, t, h => by
    unfold skipEolComments
    sp [sp_skipEolLoop f]

theorem sp_skipEol (t : TR) : Sp fuel (skipEolComments fuel) t (Mu 0 0 t) := .full (sp_skipEolLoop fuel t)

theorem sp_readDeprecated (t : TR) : Sp fuel readDeprecated t (Mu 4 0 t) := by
  unfold readDeprecated unquote
  sp [sp_expectSeq, sp_optNewline]

theorem sp_suffixLoop : ∀ (f : Nat) (ft : FT) (t : TR), mu t < f →
    Sp fuel (readFieldType.suffixLoop f ft) t (Mu 0 1 t)
  | 0, _, _, h => by omega
  | f+1, ft, t, h => by
    unfold readFieldType.suffixLoop
    sp [sp_suffixLoop f, sp_expectSeq]

theorem sp_readFieldTypeRec : ∀ (f : Nat) (t : TR), mu t < f → Sp fuel (readFieldType f) t (Mu 1 0 t)
  | 0, _, h => by omega
  | f+1, t, h => by
    unfold readFieldType
    sp [sp_readFieldTypeRec f, sp_suffixLoop f, sp_expectSeq, sp_expectAnyOf]

theorem sp_readFieldType (t : TR) : Sp fuel (readFieldType fuel) t (Mu 1 0 t) := .full (sp_readFieldTypeRec fuel t)

theorem sp_readUntilSemi : ∀ (f : Nat) (acc : List Token) (t : TR), mu t < f →
    Sp fuel (readUntilSemi f acc) t (Mu 0 0 t)
  | 0, _, _, h => by omega
  | f+1, acc, t, h => by
    unfold readUntilSemi
    sp [sp_readUntilSemi f]

theorem sp_readEnumOptionValue (prev : List EnumOption) (bf us : Bool) (bits : Nat) (t : TR) :
    Sp fuel (readEnumOptionValue fuel prev bf us bits) t (Mu 0 0 t) := by
  unfold readEnumOptionValue
  sp [sp_expectSeq, fun acc t => Sp.full (sp_readUntilSemi fuel acc t)]

theorem sp_enumLoop (bf us : Bool) (bits : Nat) : ∀ (f : Nat) (opts : List EnumOption) (st : BodySt) (t : TR),
    mu t < f → Sp fuel (readEnum.loop fuel bf bits us f opts st) t (Mu 0 0 t)
  | 0, _, _, _, h => by omega
  | f+1, opts, st, t, h => by
    unfold readEnum.loop
    sp [sp_enumLoop bf us bits f, sp_readEnumOptionValue, sp_readDeprecated]

theorem sp_readEnum (bf : Bool) (t : TR) : Sp fuel (readEnum fuel bf) t (Mu 0 0 t) := by
  unfold readEnum
  sp [sp_expectSeq, sp_expectAnyOf, sp_optNewline, fun us bits opts st t => Sp.full (sp_enumLoop bf us bits fuel opts st t)]

theorem sp_noteLineComment (st : BodySt) (tk : Token) (t : TR) : Sp fuel (noteLineComment st tk) t (Mu 0 0 t) := by
  unfold noteLineComment parseCommentTag
  sp []

theorem sp_structLoop : ∀ (f : Nat) (fields : List Field) (st : BodySt) (t : TR),
    mu t < f → Sp fuel (readStruct.loop fuel f fields st) t (Mu 0 0 t)
  | 0, _, _, _, h => by omega
  | f+1, fields, st, t, h => by
    unfold readStruct.loop
    sp [sp_structLoop f, sp_noteLineComment, sp_readFieldType, sp_expectSeq, sp_skipEol, sp_readDeprecated]

theorem sp_readStruct (t : TR) : Sp fuel (readStruct fuel) t (Mu 0 0 t) := by
  unfold readStruct
  sp [sp_expectSeq, sp_optNewline, fun fields st t => Sp.full (sp_structLoop fuel fields st t)]

theorem sp_messageLoop : ∀ (f : Nat) (fields : List (Nat × Field)) (st : BodySt) (t : TR),
    mu t < f → Sp fuel (readMessage.loop fuel f fields st) t (Mu 0 0 t)
  | 0, _, _, _, h => by omega
  | f+1, fields, st, t, h => by
    unfold readMessage.loop
    sp [sp_messageLoop f, sp_noteLineComment, sp_readFieldType, sp_expectSeq, sp_expectAnyOf, sp_skipEol, sp_readDeprecated]

theorem sp_readMessage (t : TR) : Sp fuel (readMessage fuel) t (Mu 0 0 t) := by
  unfold readMessage
  sp [sp_expectSeq, sp_optNewline, fun fields st t => Sp.full (sp_messageLoop fuel fields st t)]

theorem sp_unionLoop : ∀ (f : Nat) (fields : List (Nat × UnionField)) (st : BodySt) (t : TR),
    mu t < f → Sp fuel (readUnion.loop fuel f fields st) t (Mu 0 0 t)
  | 0, _, _, _, h => by omega
  | f+1, fields, st, t, h => by
    unfold readUnion.loop
    sp [sp_unionLoop f, sp_noteLineComment, sp_readMessage, sp_readStruct, sp_expectSeq, sp_expectAnyOf, sp_skipEol, sp_optNewline,
      sp_readDeprecated]

theorem sp_readUnion (t : TR) : Sp fuel (readUnion fuel) t (Mu 0 0 t) := by
  unfold readUnion
  sp [sp_expectSeq, sp_optNewline, fun fields st t => Sp.full (sp_unionLoop fuel fields st t)]

theorem sp_readConst (t : TR) : Sp fuel (readConst fuel) t (Mu 0 0 t) := by
  unfold readConst
  sp [sp_expectSeq, sp_optNewline, sp_skipEol]

theorem sp_readOpCode (t : TR) : Sp fuel readOpCode t (Mu 4 0 t) := by
  unfold readOpCode
  sp [sp_expectSeq, sp_expectAnyOf, sp_optNewline]

theorem sp_stepTop (st : TopSt) (tk : Token) (t : TR) : Sp fuel (stepTop fuel st tk) t (Mu 0 0 t) := by
  unfold stepTop unquote
  sp [sp_expectSeq, sp_expectAnyOf, sp_optNewline, sp_readOpCode, sp_readEnum, sp_readStruct, sp_readMessage,
    sp_readUnion, sp_readConst]

/-- Every successful exit of the top-level loop is the one where `Next` returned false and the tokenizer had
    recorded no error. -/
theorem sp_readFileLoop : ∀ (f : Nat) (st : TopSt) (t : TR), mu t < f →
    Sp fuel (readFileLoop fuel f st) t (fun _ t' => ∃ tp, next tp = (false, t') ∧ hasErr t' = false)
  | 0, _, _, h => by omega
  | f+1, st, t, h => by
    unfold readFileLoop
    sp [sp_readFileLoop f, sp_stepTop]
    exact ⟨_, ‹_›, Bool.eq_false_iff.2 ‹_›⟩

/-! ## ReadFile -/

/-- ReadFile's top-level loop with the fuel `readFile` supplies: it does not run out of fuel; wherever it stops the
    tokenizer has not panicked and the reader ends as it was given; it stops with success only after a `Next` that
    returned false with no error recorded. -/
theorem readFileLoop_exit (inp : List Byte) (ioFail : Bool) :
    match readFileLoop (2 * inp.length + 4) (2 * inp.length + 4) {} (mkTR inp ioFail) with
    | .ok _ t => (t.panicked = false ∧ t.ioFail = ioFail) ∧ ∃ tp, next tp = (false, t) ∧ hasErr t = false
    | .err t | .decline t => t.panicked = false
    | .fuel => False := by
  have h := (sp_readFileLoop (fuel := 2 * inp.length + 4) (2 * inp.length + 4) {} (mkTR inp ioFail)
    (by simp [mu, mkTR])).run (by simp [mkTR])
  unfold PT.Ok at h
  split <;> rename_i hr <;> rw [hr] at h
  · exact ⟨⟨h.1.1 rfl, h.1.2⟩, h.2.2⟩
  · exact h.1.1 rfl
  · exact h.1.1 rfl
  · exact h.2

/-- ReadFile's answer, read off its top-level loop.  It never panics, whatever the bytes and however the reader
    ends.  It never runs out of the fuel it supplies itself: no loop of the parser — the top-level loop, the enum /
    struct / message / union body loops, `readFieldType`'s recursion and `[]` loop, `readUntil(';')`,
    `skipEndOfLineComments` — for every input and for both endings of the reader (EOF, or a persistent I/O error).
    It reports success only when the whole input has been consumed and the reader ended with EOF: nothing is left
    unread (so nothing was silently dropped), and an I/O error of the reader never yields success. -/
theorem readFile_spec (inp : List Byte) (ioFail : Bool) :
    match readFile inp ioFail with
    | .ok file => ioFail = false ∧
      ∃ t', readFileLoop (2 * inp.length + 4) (2 * inp.length + 4) {} (mkTR inp ioFail) = .ok file t' ∧ t'.inp = []
    | .panic | .fuel => False
    | _ => True := by
  have hx := readFileLoop_exit inp ioFail
  unfold readFile
  split at hx <;> rename_i hr <;> simp only [hr]
  · obtain ⟨⟨hp, hio⟩, tp, hnext, herr⟩ := hx
    rename_i f t'
    cases hn : t'.nonAscii <;> simp only [hp, Bool.false_eq_true, if_false, if_true]
    have h1 := next_false_clean tp (by rw [hnext]) (by rw [hnext]; simpa [hasErr, List.isEmpty_iff] using herr)
      (by rw [hnext]; exact hn) (by rw [hnext]; exact hp)
    rw [hnext] at h1
    exact ⟨by rw [← hio]; exact h1.2, t', rfl, h1.1⟩
  · rename_i t
    cases hn : t.nonAscii <;> simp only [hx, Bool.false_eq_true, if_false, if_true]
  · exact hx

end Bebop.Text
