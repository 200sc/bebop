/-
  The stream reader on a state that is about to deliver given bytes (`Reads`): what each primitive read
  returns and where it leaves the reader, and the two facts about the stack of limited readers that the
  message and union decoders need: leaving inside what the reader still delivers is leaving at once
  (`Reads.leave`), and the limited reader installed behind a length prefix spans exactly the body (`Reads.frame`).
-/
import Bebop.Proofs.StreamBind

namespace Bebop

/-- The reader is healthy and will deliver `bs` next, within every installed limit. -/
def Reads (s : RState) (bs : List Byte) : Prop :=
  s.err = false ∧ (∃ rest, s.data = bs ++ rest) ∧ ∀ l ∈ s.limits, bs.length ≤ l

theorem RState.le_avail_iff (s : RState) (n : Nat) :
    n ≤ s.avail ↔ n ≤ s.data.length ∧ ∀ l ∈ s.limits, n ≤ l := by
  unfold RState.avail
  generalize s.data.length = a
  induction s.limits generalizing a with
  | nil => simp
  | cons x ls ih => simp [ih, Nat.le_min, and_assoc]

theorem RState.avail_consume (s : RState) (k : Nat) : (s.consume k).avail = s.avail - k := by
  simp only [RState.avail, RState.consume, List.length_drop]
  generalize s.data.length = a
  induction s.limits generalizing a with
  | nil => rfl
  | cons x ls ih => simp only [List.map_cons, List.foldl_cons, Nat.sub_min_sub_right, ih]

theorem consume_consume (s : RState) (a b : Nat) : (s.consume a).consume b = s.consume (a + b) := by
  simp [RState.consume, List.drop_drop, Nat.sub_add_eq]

theorem consume_zero (s : RState) : s.consume 0 = s := by
  cases s; simp [RState.consume]

theorem Reads.le_avail {s : RState} {bs : List Byte} (h : Reads s bs) : bs.length ≤ s.avail := by
  obtain ⟨_, ⟨rest, hd⟩, hl⟩ := h
  exact (s.le_avail_iff _).mpr ⟨by simp [hd], hl⟩

theorem Reads.split {s : RState} {a b : List Byte} (h : Reads s (a ++ b)) :
    Reads s a ∧ Reads (s.consume a.length) b := by
  obtain ⟨he, ⟨rest, hd⟩, hl⟩ := h
  simp only [List.length_append] at hl
  refine ⟨⟨he, ⟨b ++ rest, by simp [hd]⟩, fun l hl' => Nat.le_trans (Nat.le_add_right _ _) (hl l hl')⟩,
    he, ⟨rest, by simp [RState.consume, hd]⟩, ?_⟩
  simp only [RState.consume, List.mem_map]
  rintro _ ⟨l, hl', rfl⟩
  exact Nat.le_sub_of_add_le' (hl l hl')

theorem Reads.data_length {s : RState} {bs : List Byte} (h : Reads s bs) :
    (s.consume bs.length).data.length + bs.length = s.data.length := by
  obtain ⟨_, ⟨rest, hd⟩, _⟩ := h
  simp [RState.consume, hd, Nat.add_comm]

theorem sread_reads (s : RState) (n : Nat) (bs : List Byte) (hn : bs.length = n) (h : Reads s bs) :
    sread n s = (some bs, s.consume n) := by
  have hle := h.le_avail
  obtain ⟨_, ⟨rest, hd⟩, _⟩ := h
  subst hn
  simp [sread, hle, hd]

theorem sdec_enc_fixed {env : Env} {t : Ty} {n : Nat} (hs : fixedSize t = some n) {v : Val} (h : wt env t v)
    (f : Nat) (env1 : Env) (s : RState) (hr : Reads s (enc v)) :
    sdec (f+1) env1 t s = (.val v, s.consume (enc v).length) := by
  obtain ⟨hl, hv⟩ := primVal_enc hs h
  rw [sdec_fixed hs, sread_reads s n (enc v) hl hr, hl]
  simp [hv]

theorem Reads.u32 {s : RState} {n : Nat} {b : List Byte} (h : Reads s (leBytes 4 n ++ b)) (hn : n < 2^32) :
    sreadU32 s = (n, s.consume 4) ∧ Reads (s.consume 4) b := by
  obtain ⟨h1, h2⟩ := h.split
  simp only [length_leBytes] at h2
  exact ⟨by simp [sreadU32, sread_reads s 4 _ (by simp) h1, ofLe_leBytes 4 n (by simpa using hn)], h2⟩

theorem Reads.byte {s : RState} {x : Byte} {b : List Byte} (h : Reads s (x :: b)) :
    sreadByte s = (x.toNat, s.consume 1) ∧ Reads (s.consume 1) b := by
  obtain ⟨h1, h2⟩ := Reads.split (a := [x]) h
  exact ⟨by simp [sreadByte, sread_reads s 1 [x] rfl h1, ofLe], h2⟩

/-- `Drain` reads to the end of the innermost limited reader, so leaving after `k` bytes that were there to be
    read is leaving at once. -/
theorem sleave_consume (v : Val) {s : RState} {k : Nat} (h : k ≤ s.avail) : sleave v (s.consume k) = sleave v s := by
  have : sdrain (s.consume k) = sdrain s := by
    simp only [sdrain, RState.avail_consume, consume_consume, Nat.add_sub_cancel' h]
  simp only [sleave, this]

/-- Where a decoder stops inside a length-prefixed body does not matter. -/
theorem Reads.leave {s : RState} {bs : List Byte} (h : Reads s bs) (v : Val) {k : Nat} (hk : k ≤ bs.length) :
    sleave v (s.consume k) = sleave v s := sleave_consume v (Nat.le_trans hk h.le_avail)

/-- A length-prefixed body (message, union): the limited reader of `n + x` bytes that is installed behind the
    prefix `n` (`pushed`) spans exactly the body, and `sleave` puts the reader exactly behind the body. -/
theorem Reads.frame {s : RState} {n : Nat} {body : List Byte} (x : Nat) (h : Reads s (leBytes 4 n ++ body))
    (hn : n < 2^32) (hb : body.length = n + x) :
    Reads (pushed s x) body ∧ ∀ v, sleave v (pushed s x) = (.val v, s.consume (4 + body.length)) := by
  obtain ⟨hu, he, hd, hl⟩ := h.u32 hn
  rw [show pushed s x = ⟨(s.consume 4).data, body.length :: (s.consume 4).limits, (s.consume 4).err⟩ by
    simp only [pushed, hu, hb]]
  have h3 : Reads ⟨(s.consume 4).data, body.length :: (s.consume 4).limits, (s.consume 4).err⟩ body :=
    ⟨he, hd, List.forall_mem_cons.mpr ⟨Nat.le_refl _, hl⟩⟩
  have hav := Nat.le_antisymm (((RState.le_avail_iff _ _).mp (Nat.le_refl _)).2 _ List.mem_cons_self) h3.le_avail
  refine ⟨h3, fun v => ?_⟩
  simp only [sleave, sdrain, hav, ← consume_consume]
  simp [RState.consume, ← he]

end Bebop
