/-
  Value-level lemmas for schema evolution (C04): the extension relation, `restrict`, and when restriction
  is the identity.  Shared by the stream and the byte-slice evolution theorems.
-/
import Bebop.Evolve
import Bebop.Proofs.GSize

namespace Bebop

/-! ### The extension relation -/

theorem DefExtends.refl : (d : Def) → DefExtends d d
  | .struct _ => rfl
  | .union _ => rfl
  | .msg _ => fun _ => ⟨fun a ha => ⟨a, ha, rfl⟩, fun b hb => Or.inl ⟨b, hb, rfl⟩⟩

theorem Extends.refl : (env : Env) → Extends env env
  | [] => trivial
  | d :: env => ⟨DefExtends.refl d, Extends.refl env⟩

theorem Extends.getElem? {e1 e2 : Env} (hx : Extends e1 e2) (n : Nat) : Option.Rel DefExtends e1[n]? e2[n]? := by
  induction e1 generalizing e2 n with
  | nil => cases e2 with
    | nil => exact .none
    | cons _ _ => exact hx.elim
  | cons d1 e1 ih => cases e2 with
    | nil => exact hx.elim
    | cons d2 e2 => cases n with
      | zero => exact .some hx.1
      | succ n => simpa using ih hx.2 n

/-- The two versions have a definition at the same places, of the same kind: structs and unions are equal, a
    message has a message for partner. -/
theorem Extends.kinds {e1 e2 : Env} (hx : Extends e1 e2) (n : Nat) :
    (∀ tys, e1[n]? = some (.struct tys) ↔ e2[n]? = some (.struct tys)) ∧
    (∀ brs, e1[n]? = some (.union brs) ↔ e2[n]? = some (.union brs)) ∧
    (∀ f1, e1[n]? = some (.msg f1) → ∃ f2, e2[n]? = some (.msg f2) ∧ DefExtends (.msg f1) (.msg f2)) ∧
    (∀ f2, e2[n]? = some (.msg f2) → ∃ f1, e1[n]? = some (.msg f1) ∧ DefExtends (.msg f1) (.msg f2)) := by
  have h := hx.getElem? n
  generalize e1[n]? = o1, e2[n]? = o2 at h
  cases h with
  | none => exact ⟨fun _ => Iff.rfl, fun _ => Iff.rfl, nofun, nofun⟩
  | @some d1 d2 hd =>
    cases d1 <;> cases d2 <;> first | exact hd.elim | skip
    · cases hd; exact ⟨fun _ => Iff.rfl, fun _ => Iff.rfl, nofun, nofun⟩
    · exact ⟨fun _ => ⟨nofun, nofun⟩, fun _ => ⟨nofun, nofun⟩, fun _ h => ⟨_, rfl, by cases h; exact hd⟩,
        fun _ h => ⟨_, rfl, by cases h; exact hd⟩⟩
    · cases hd; exact ⟨fun _ => Iff.rfl, fun _ => Iff.rfl, nofun, nofun⟩

theorem Extends.get_struct {e1 e2 : Env} (hx : Extends e1 e2) {n : Nat} {tys : List Ty}
    (h : e2[n]? = some (.struct tys)) : e1[n]? = some (.struct tys) := ((hx.kinds n).1 tys).mpr h

theorem Extends.get_union {e1 e2 : Env} (hx : Extends e1 e2) {n : Nat} {brs : List (Nat × Nat)}
    (h : e2[n]? = some (.union brs)) : e1[n]? = some (.union brs) := ((hx.kinds n).2.1 brs).mpr h

theorem Extends.get_msg {e1 e2 : Env} (hx : Extends e1 e2) {n : Nat} {f2 : List MsgField}
    (h : e2[n]? = some (.msg f2)) : ∃ f1, e1[n]? = some (.msg f1) ∧ DefExtends (.msg f1) (.msg f2) :=
  (hx.kinds n).2.2.2 f2 h

theorem find_none_of_lt (fds : List MsgField) (i : Nat) (h : ∀ a ∈ fds, a.idx < i) :
    fds.find? (fun fd => fd.idx == i) = none :=
  List.find?_eq_none.2 fun a ha e => Nat.lt_irrefl _ (eq_of_beq e ▸ h a ha)

/-- The terminator byte is never a field index. -/
theorem find_zero_none {fds : List MsgField} (hok : DefOk (.msg fds)) : fds.find? (fun fd => fd.idx == 0) = none := by
  rw [List.find?_eq_none]
  intro fd hfd
  have := (hok fd hfd).1
  simp; omega

/-- What the decoder needs of `DefExtends` at a field the sender transmitted: either the reader knows the
    index, with the same type, or the index is above everything the reader knows. -/
theorem DefExtends.at_field {f1 f2 : List MsgField} (hd : DefExtends (.msg f1) (.msg f2)) {i : Nat} {b : MsgField}
    (hb : f2.find? (fun fd => fd.idx == i) = some b) :
    (∃ a, f1.find? (fun fd => fd.idx == i) = some a ∧ a.ty = b.ty) ∨
    (f1.find? (fun fd => fd.idx == i) = none ∧ ∀ a ∈ f1, a.idx < i) := by
  rcases (hd i).2 b hb with h | h
  · exact Or.inl h
  · exact Or.inr ⟨find_none_of_lt f1 i h, h⟩

/-- Where the index determines the type, the lookup at a member's index finds a field of the member's type. -/
theorem find_of_mem {fds : List MsgField} (hu : ∀ b ∈ fds, ∀ b' ∈ fds, b.idx = b'.idx → b.ty = b'.ty) {b : MsgField}
    (hb : b ∈ fds) : ∃ b', fds.find? (fun fd => fd.idx == b.idx) = some b' ∧ b'.ty = b.ty := by
  cases hf : fds.find? (fun fd => fd.idx == b.idx) with
  | none => exact absurd (beq_self_eq_true b.idx) (List.find?_eq_none.mp hf b hb)
  | some b' => exact ⟨b', rfl, hu b' (List.mem_of_find?_eq_some hf) b hb (find_msgField fds _ b' hf)⟩

/-- The membership formulation implies the lookup formulation. -/
theorem DefExtends.msg_of_mem {f1 f2 : List MsgField} (h : MsgExtendsMem f1 f2) :
    DefExtends (.msg f1) (.msg f2) := by
  obtain ⟨hu1, hu2, hold, hnew⟩ := h
  refine fun i => ⟨fun a ha => ?_, fun b hb => ?_⟩
  · cases find_msgField f1 i a ha
    obtain ⟨b, hb, hbi, hbt⟩ := hold a (List.mem_of_find?_eq_some ha)
    obtain ⟨b', hb', ht⟩ := find_of_mem hu2 hb
    exact ⟨b', hbi ▸ hb', ht.trans hbt⟩
  · cases find_msgField f2 i b hb
    rcases hnew b (List.mem_of_find?_eq_some hb) with ⟨a, ha, hai, hat⟩ | h
    · obtain ⟨a', ha', ht⟩ := find_of_mem hu1 ha
      exact .inl ⟨a', hai ▸ ha', ht.trans hat⟩
    · exact .inr h

/-! ### Restriction -/

/-- Once an index above everything the reader knows has been seen, nothing that follows is kept. -/
theorem restrictFields_above (env1 env2 : Env) (f1 f2 : List MsgField) (i : Nat) (v : Val) (fs : List (Nat × Val))
    (lo : Nat) (hw : wtMsg env2 f2 lo ((i, v) :: fs)) (hi : ∀ a ∈ f1, a.idx < i) :
    restrictFields env1 f1 ((i, v) :: fs) = [] := by
  induction fs generalizing i v lo with
  | nil => simp only [restrictFields, find_none_of_lt f1 i hi]
  | cons p fs ih =>
    rw [restrictFields, find_none_of_lt f1 i hi]
    exact ih p.1 p.2 i hw.2.2.2 fun a ha => Nat.lt_trans (hi a ha) hw.2.2.2.1

mutual
/-- Restriction never grows `Size()`. -/
theorem vsize_restrict_le (env1 : Env) : (v : Val) → ∀ ty, vsize (restrict env1 ty v) ≤ vsize v
  | .scalar _ _ => fun _ => Nat.le_refl _
  | .str _ => fun _ => Nat.le_refl _
  | .guid _ => fun _ => Nat.le_refl _
  | .arr vs => fun ty => by
      cases ty with
      | arr t => exact Nat.add_le_add_left (vsizeList_restrict_le env1 vs t) 4
      | _ => exact Nat.le_refl _
  | .map kvs => fun ty => by
      cases ty with
      | map k t => exact Nat.add_le_add_left (vsizeKVs_restrict_le env1 kvs t) 4
      | _ => exact Nat.le_refl _
  | .struct fs => fun ty => by
      simp only [restrict]
      split
      · split
        · exact vsizeStruct_restrict_le env1 fs _
        · exact Nat.le_refl _
      · exact Nat.le_refl _
  | .msg fs => fun ty => by
      simp only [restrict]
      split
      · split
        · exact Nat.add_le_add_left (vsizeFields_restrict_le env1 fs _) _
        · exact Nat.le_refl _
      · exact Nat.le_refl _
  | .union d v => fun ty => by
      simp only [restrict]
      split
      · split
        · split
          · exact Nat.add_le_add_left (vsize_restrict_le env1 v _) _
          · exact Nat.le_refl _
        · exact Nat.le_refl _
      · exact Nat.le_refl _
theorem vsizeList_restrict_le (env1 : Env) : (vs : List Val) → ∀ t, vsizeList (restrictList env1 t vs) ≤ vsizeList vs
  | [] => fun _ => Nat.le_refl _
  | v :: vs => fun t => Nat.add_le_add (vsize_restrict_le env1 v t) (vsizeList_restrict_le env1 vs t)
theorem vsizeKVs_restrict_le (env1 : Env) : (kvs : List (Val × Val)) → ∀ t, vsizeKVs (restrictKVs env1 t kvs) ≤ vsizeKVs kvs
  | [] => fun _ => Nat.le_refl _
  | (_, v) :: kvs => fun t =>
      Nat.add_le_add (Nat.add_le_add_left (vsize_restrict_le env1 v t) _) (vsizeKVs_restrict_le env1 kvs t)
theorem vsizeStruct_restrict_le (env1 : Env) : (vs : List Val) → ∀ tys, vsizeList (restrictStruct env1 tys vs) ≤ vsizeList vs
  | [] => fun tys => by cases tys <;> exact Nat.le_refl _
  | v :: vs => fun
    | [] => Nat.le_refl _
    | t :: tys => Nat.add_le_add (vsize_restrict_le env1 v t) (vsizeStruct_restrict_le env1 vs tys)
theorem vsizeFields_restrict_le (env1 : Env) : (fs : List (Nat × Val)) → ∀ fds, vsizeFields (restrictFields env1 fds fs) ≤ vsizeFields fs
  | [] => fun _ => Nat.le_refl _
  | (i, v) :: fs => fun fds => by
      have h2 := vsizeFields_restrict_le env1 fs fds
      simp only [restrictFields]
      split
      · exact Nat.add_le_add (Nat.add_le_add_left (vsize_restrict_le env1 v _) 1) h2
      · exact Nat.le_trans h2 (Nat.le_add_left _ _)
end

/-- A value of a record type is a struct, a message or a union. -/
theorem ref_cases {env : Env} {n : Nat} {v : Val} (h : wt env (.ref n) v) :
    (∃ fs, v = .struct fs) ∨ (∃ fs, v = .msg fs) ∨ ∃ d w, v = .union d w := by
  cases v with
  | struct fs => exact .inl ⟨fs, rfl⟩
  | msg fs => exact .inr (.inl ⟨fs, rfl⟩)
  | union d w => exact .inr (.inr ⟨d, w, rfl⟩)
  | scalar => rcases h.2 with h | h | h | h | h <;> cases h.1
  | str | guid => cases h.1
  | arr => obtain ⟨_, h, _⟩ := h; cases h
  | map => obtain ⟨_, _, h, _⟩ := h; cases h

/-- The fuel the elements of an array or map are left with (`rank` adds 1 for it), and the fields or the member of
    a record (2: one unit in `dec` / `sdec`, one in `decRecord` / `sdecRecord`). -/
theorem fuel_list {r f : Nat} (h : 1 + r < f + 1) : r < f := by
  rw [Nat.add_comm] at h; exact Nat.lt_of_succ_lt_succ h

theorem fuel_record {r f : Nat} (h : 2 + r < f + 1) : ∃ g, f = g + 1 ∧ r < g := by
  rw [Nat.add_comm] at h
  cases f with
  | zero => exact absurd (Nat.lt_of_succ_lt_succ h) (Nat.not_lt_zero _)
  | succ g => exact ⟨g, rfl, Nat.lt_of_succ_lt_succ (Nat.lt_of_succ_lt_succ h)⟩

/-- Map keys are primitives: restriction leaves them alone, and they hold no struct. -/
theorem key_plain (env1 : Env) {env : Env} {k : Ty} (hk : isKeyTy k = true) {a : Val} (h : wt env k a) :
    restrict env1 k a = a ∧ StructsStable env1 k a := by
  obtain ⟨_, _, rfl⟩ | ⟨_, rfl⟩ | ⟨_, rfl⟩ := key_cases hk h <;> exact ⟨rfl, trivial⟩

theorem restrictKVs_eq_map (env1 : Env) (t : Ty) :
    ∀ kvs, kvs.map (fun kv => (kv.1, restrict env1 t kv.2)) = restrictKVs env1 t kvs
  | [] => rfl
  | (a, b) :: kvs => by simp only [List.map_cons, restrictKVs, restrictKVs_eq_map env1 t kvs]

/-- The reader's `Size()` of what it decodes never exceeds the bytes on the wire: restriction only drops
    fields, and `Size()` only skips some. -/
theorem gsize_restrict_le (env1 : Env) (v : Val) (ty : Ty) : gsize env1 ty (restrict env1 ty v) ≤ vsize v :=
  Nat.le_trans (gsize_le_vsize env1 _ ty) (vsize_restrict_le env1 v ty)

/-! ### When restriction is the identity -/

mutual
/-- If the reader's schema `env1` knows every field of the sender's schema `env2` (`Extends env2 env1`: in
    particular `env1 = env2`, or the two differ only in `deprecated` flags), nothing is dropped. -/
theorem restrict_id_of_known (env1 env2 : Env) (hx : Extends env2 env1) :
    (v : Val) → ∀ ty, wt env2 ty v → restrict env1 ty v = v
  | .scalar _ _ => fun _ _ => rfl
  | .str _ => fun _ _ => rfl
  | .guid _ => fun _ _ => rfl
  | .arr vs => fun ty h => by
      obtain ⟨t, rfl, _, hw, _⟩ := h
      simp only [restrict, restrictList_id env1 env2 hx vs t hw]
  | .map kvs => fun ty h => by
      obtain ⟨k, t, rfl, _, _, hw, _⟩ := h
      simp only [restrict, restrictKVs_id env1 env2 hx kvs k t hw]
  | .struct fs => fun ty h => by
      obtain ⟨n, tys, rfl, hn, hw⟩ := h
      simp only [restrict, ((hx.kinds n).1 tys).mp hn, restrictStruct_id env1 env2 hx fs tys hw]
  | .msg fs => fun ty h => by
      obtain ⟨n, fds2, rfl, hn, hw, _⟩ := h
      obtain ⟨fds, hn1, hd⟩ := (hx.kinds n).2.2.1 fds2 hn
      simp only [restrict, hn1, restrictFields_id env1 env2 hx fs fds fds2 0 hd hw]
  | .union d v => fun ty h => by
      obtain ⟨n, brs, m, rfl, hn, _, hm, hw, _⟩ := h
      simp only [restrict, ((hx.kinds n).2.1 brs).mp hn, hm, restrict_id_of_known env1 env2 hx v (.ref m) hw]
theorem restrictList_id (env1 env2 : Env) (hx : Extends env2 env1) :
    (vs : List Val) → ∀ t, wtList env2 t vs → restrictList env1 t vs = vs
  | [] => fun _ _ => rfl
  | v :: vs => fun t h => by
      simp only [restrictList, restrict_id_of_known env1 env2 hx v t h.1, restrictList_id env1 env2 hx vs t h.2]
theorem restrictKVs_id (env1 env2 : Env) (hx : Extends env2 env1) :
    (kvs : List (Val × Val)) → ∀ k t, wtKVs env2 k t kvs → restrictKVs env1 t kvs = kvs
  | [] => fun _ _ _ => rfl
  | (a, b) :: kvs => fun k t h => by
      simp only [restrictKVs, restrict_id_of_known env1 env2 hx b t h.2.1, restrictKVs_id env1 env2 hx kvs k t h.2.2]
theorem restrictStruct_id (env1 env2 : Env) (hx : Extends env2 env1) :
    (vs : List Val) → ∀ tys, wtStruct env2 tys vs → restrictStruct env1 tys vs = vs
  | [] => fun tys _ => by cases tys <;> rfl
  | v :: vs => fun
    | [], h => h.elim
    | t :: tys, h => by
      simp only [restrictStruct, restrict_id_of_known env1 env2 hx v t h.1, restrictStruct_id env1 env2 hx vs tys h.2]
theorem restrictFields_id (env1 env2 : Env) (hx : Extends env2 env1) :
    (fs : List (Nat × Val)) → ∀ (fds fds2 : List MsgField) (lo : Nat), DefExtends (.msg fds2) (.msg fds) →
      wtMsg env2 fds2 lo fs → restrictFields env1 fds fs = fs
  | [] => fun _ _ _ _ _ => rfl
  | (i, v) :: fs => fun fds fds2 lo hd h => by
      obtain ⟨_, _, ⟨b, hb, _, hwv⟩, hrest⟩ := h
      obtain ⟨a, ha, hty⟩ := (hd i).1 b hb
      rw [← hty] at hwv
      simp only [restrictFields, ha, restrict_id_of_known env1 env2 hx v a.ty hwv,
        restrictFields_id env1 env2 hx fs fds fds2 i hd hrest]
end

/-- In particular a value of the reader's own schema is untouched. -/
theorem restrict_self (env : Env) (ty : Ty) (v : Val) (h : wt env ty v) : restrict env ty v = v :=
  restrict_id_of_known env env (Extends.refl env) v ty h

/-- What is asked of a record in nested position covers what is asked of it where nobody steps over it. -/
theorem topStable_of_stable {env : Env} {n : Nat} {v : Val} (hs : StructsStable env (.ref n) v) : TopStable env n v := by
  cases v with
  | struct fs => simp only [StructsStable] at hs; exact hs.2
  | _ => exact hs

mutual
/-- For a value of the reader's own schema the slice guard holds: nothing is dropped (`restrict_self`) and
    no present field is deprecated (`wt`), so `Size()` is the length of the encoding.  It does not hold for every
    reader schema `env1` that knows every field of the writer's (`Extends env2 env1`): a reader that marks a field
    deprecated which the writer still sends has a smaller `Size()` than the wire
    (`C04_deprecated_nested_struct_counterexample`). -/
theorem stable_self (env : Env) : (v : Val) → ∀ ty, wt env ty v → StructsStable env ty v
  | .scalar _ _ => fun _ _ => trivial
  | .str _ => fun _ _ => trivial
  | .guid _ => fun _ _ => trivial
  | .arr vs => fun ty h => by
      obtain ⟨t, rfl, _, hw, _⟩ := h
      exact stableList_self env vs t hw
  | .map kvs => fun ty h => by
      obtain ⟨k, t, rfl, _, _, hw, _⟩ := h
      exact stableKVs_self env kvs k t hw
  | .struct fs => fun ty h => by
      have hid := restrict_self env ty (.struct fs) h
      have hg := gsize_eq_vsize_of_wt env (.struct fs) ty h
      obtain ⟨n, tys, rfl, hn, hw⟩ := h
      simp only [StructsStable, hid, hn]
      exact ⟨hg, stableStruct_self env fs tys hw⟩
  | .msg fs => fun ty h => by
      obtain ⟨n, fds, rfl, hn, hw, _⟩ := h
      simp only [StructsStable, hn]; exact stableFields_self env fs fds 0 hw
  | .union d v => fun ty h => by
      obtain ⟨n, brs, m, rfl, hn, _, hm, hw, _⟩ := h
      rw [structsStable_union env v hn hm]
      exact topStable_of_stable (stable_self env v (.ref m) hw)
theorem stableList_self (env : Env) : (vs : List Val) → ∀ t, wtList env t vs → stableList env t vs
  | [] => fun _ _ => trivial
  | v :: vs => fun t h => ⟨stable_self env v t h.1, stableList_self env vs t h.2⟩
theorem stableKVs_self (env : Env) : (kvs : List (Val × Val)) → ∀ k t, wtKVs env k t kvs → stableKVs env t kvs
  | [] => fun _ _ _ => trivial
  | (_, b) :: kvs => fun k t h => ⟨stable_self env b t h.2.1, stableKVs_self env kvs k t h.2.2⟩
theorem stableStruct_self (env : Env) : (vs : List Val) → ∀ tys, wtStruct env tys vs → stableStruct env tys vs
  | [] => fun tys _ => by cases tys <;> trivial
  | v :: vs => fun
    | [], h => h.elim
    | t :: tys, h => ⟨stable_self env v t h.1, stableStruct_self env vs tys h.2⟩
theorem stableFields_self (env : Env) :
    (fs : List (Nat × Val)) → ∀ (fds : List MsgField) (lo : Nat), wtMsg env fds lo fs → stableFields env fds fs
  | [] => fun _ _ _ => trivial
  | (i, v) :: fs => fun fds lo h => by
      obtain ⟨_, _, ⟨a, ha, _, hwv⟩, hrest⟩ := h
      simp only [stableFields, ha]
      exact ⟨stable_self env v a.ty hwv, stableFields_self env fs fds i hrest⟩
end

theorem topStable_self (env : Env) (n : Nat) (v : Val) (h : wt env (.ref n) v) : TopStable env n v :=
  topStable_of_stable (stable_self env v (.ref n) h)

end Bebop
