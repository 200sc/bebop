/-
  The byte-slice decoders (safe and unchecked) invert the reference encoder: schema evolution (`dec_evo`) with
  the reader's schema equal to the writer's, where nothing is restricted away and every struct keeps its size.
-/
import Bebop.Proofs.Evolve

namespace Bebop

theorem dec_enc (env : Env) (hE : EnvOk env) (v : Val) (ty : Ty) (safe : Bool) (f : Nat) (rest : List Byte)
    (h : wt env ty v) (hf : rank v < f) : dec f env safe ty (enc v ++ rest) = .ok (v, rest) := by
  rw [dec_evo hE (Extends.refl env) f safe ty v rest h (stable_self env v ty h) hf, restrict_self env ty v h]

theorem decN_enc (env : Env) (hE : EnvOk env) :
    (vs : List Val) → ∀ (t : Ty) (safe : Bool) (f : Nat) (rest : List Byte), wtList env t vs → Progress vs →
      rankList vs < f →
      decN (dec f env safe t) vs.length (encList vs ++ rest) = .ok (vs, rest) := by
  intro vs t safe f rest h hp hf
  rw [decN_evo env env hE (Extends.refl env) vs t safe f rest h (stableList_self env vs t h) hp hf,
    restrictList_id env env (Extends.refl env) vs t h]

/-- Whatever the map holds already and whether or not the keys are distinct. -/
theorem decEntries_enc_fold (env : Env) (hE : EnvOk env) (kvs : List (Val × Val)) (k t : Ty) (safe : Bool) (f : Nat)
    (rest : List Byte) (acc : List (Val × Val)) (h : wtKVs env k t kvs) (hf : rankKVs kvs < f) :
    decEntries k (dec f env safe k) (dec f env safe t) kvs.length (encKVs kvs ++ rest) acc
      = .ok (kvs.foldl (fun acc kv => mapInsert k kv.1 (restrict env t kv.2) acc) acc, rest) :=
  decEntries_spec (dec_evo hE (Extends.refl env) f safe) kvs k t rest acc
    (fun a ha => ⟨restrict_self env k a ha, stable_self env a k ha⟩) h
    (stableKVs_self env kvs k t h) hf

theorem decEntries_enc (env : Env) (hE : EnvOk env) :
    (kvs : List (Val × Val)) → ∀ (k t : Ty) (safe : Bool) (f : Nat) (rest : List Byte) (acc : List (Val × Val)),
      wtKVs env k t kvs → keysDistinct k kvs → (∀ a ∈ acc, ∀ kv ∈ kvs, keyEq k a.1 kv.1 = false) →
      rankKVs kvs < f →
      decEntries k (dec f env safe k) (dec f env safe t) kvs.length (encKVs kvs ++ rest) acc = .ok (acc ++ kvs, rest) := by
  intro kvs k t safe f rest acc h hd hacc hf
  rw [decEntries_enc_fold env hE kvs k t safe f rest acc h hf, foldl_mapInsert_fresh k _ kvs acc hd hacc,
    restrictKVs_eq_map, restrictKVs_id env env (Extends.refl env) kvs k t h]

theorem decFields_enc (env : Env) (hE : EnvOk env) :
    (fs : List Val) → ∀ (tys : List Ty) (safe : Bool) (f : Nat) (rest : List Byte), wtStruct env tys fs → rankList fs < f →
      decFields (dec f env safe) tys (encList fs ++ rest) = .ok (fs, rest) := by
  intro fs tys safe f rest h hf
  rw [decFields_evo env env hE (Extends.refl env) fs tys safe f rest h (stableStruct_self env fs tys h) hf,
    restrictStruct_id env env (Extends.refl env) fs tys h]

theorem decMsgLoop_enc (env : Env) (hE : EnvOk env) :
    (fs : List (Nat × Val)) → ∀ (fds : List MsgField) (safe : Bool) (f : Nat) (rest : List Byte) (lo : Nat)
      (acc : List (Nat × Val)) (n : Nat), DefOk (.msg fds) → wtMsg env fds lo fs → (∀ a ∈ acc, a.1 ≤ lo) →
      rankFields fs < f → fs.length < n →
      decMsgLoop safe (dec f env safe) fds n (encFields fs ++ 0 :: rest) acc = .ok (acc ++ fs, 0 :: rest) := by
  intro fs fds safe f rest lo acc n hok hw hacc hf hn
  have hid := restrictFields_id env env (Extends.refl env) fs fds fds lo (DefExtends.refl _) hw
  obtain ⟨r, hr, hloop⟩ := decMsgLoop_spec (dec_evo hE (Extends.refl env) f safe) safe fs fds fds rest lo acc n hok
    (DefExtends.refl _) hw (stableFields_self env fs fds lo hw) hacc hf hn
  rw [hloop, hid, hr hid]

theorem unmarshal_enc (env : Env) (hE : EnvOk env) (n : Nat) (v : Val) (safe : Bool) (f : Nat)
    (h : wt env (.ref n) v) (hf : rank v < f + 1) (rest : List Byte) :
    unmarshal f env safe n (enc v ++ rest) = .ok v := by
  rw [unmarshal_evo env env hE (Extends.refl env) n v safe f h (topStable_self env n v h) hf rest, restrict_self env _ v h]

end Bebop
