/-
  The stream decoders are programs in the monad `RState → SOut α × RState` (state, and early return of an
  error or of out-of-fuel).  The model writes every sequencing step out as a `match`, the way the Go code
  writes `if err != nil { return err }`.  Here the sequencing is named (`sbind`) and each decoder of the
  model is shown in that form once (the primitive types as one case, `sdec_fixed`), so that a property preserved by
  `bind` (the sticky latch, independence of fuel, failure on a truncated stream) needs one lemma about `bind` and a
  few lines per decoder, and no proof unfolds the mutual block of `sdec` / `sdecRecord` except for strings and the empty struct.
-/
import Bebop.Stream
import Bebop.Proofs.Dec

namespace Bebop

def sbind {α β} (r : SOut α × RState) (k : α → RState → SOut β × RState) : SOut β × RState :=
  match r with
  | (.val a, s) => k a s
  | (.ret, s) => (.ret, s)
  | (.fuel, s) => (.fuel, s)

@[simp] theorem sbind_val {α β} (a : α) (s : RState) (k : α → RState → SOut β × RState) :
    sbind (.val a, s) k = k a s := rfl
@[simp] theorem sbind_ret {α β} (s : RState) (k : α → RState → SOut β × RState) : sbind (.ret, s) k = (.ret, s) := rfl
@[simp] theorem sbind_fuel {α β} (s : RState) (k : α → RState → SOut β × RState) : sbind (.fuel, s) k = (.fuel, s) := rfl

theorem sdecN_succ (d : SDec) (n : Nat) (s : RState) :
    sdecN d (n+1) s = sbind (d s) fun v s' =>
      if s'.data.length = s.data.length ∧ loopSlack ≤ n then (.fuel, s')
      else sbind (sdecN d n s') fun vs s'' => (.val (v :: vs), s'') := by
  simp only [sdecN]
  rcases d s with ⟨_ | _ | _, s'⟩ <;> simp only [sbind_val, sbind_ret, sbind_fuel]
  split
  · rfl
  · rcases sdecN d n s' with ⟨_ | _ | _, _⟩ <;> rfl

theorem sdecEntries_succ (kt : Ty) (dk dv : SDec) (n : Nat) (s : RState) (acc : List (Val × Val)) :
    sdecEntries kt dk dv (n+1) s acc = sbind (dk s) fun k s1 => sbind (dv s1) fun v s2 =>
      if s2.data.length = s.data.length ∧ loopSlack ≤ n then (.fuel, s2)
      else sdecEntries kt dk dv n s2 (mapInsert kt k v acc) := by
  simp only [sdecEntries]
  rcases dk s with ⟨_ | _ | _, s1⟩ <;> simp only [sbind_val, sbind_ret, sbind_fuel]
  rcases dv s1 with ⟨_ | _ | _, _⟩ <;> rfl

theorem sdecFields_cons (d : Ty → SDec) (t : Ty) (ts : List Ty) (s : RState) :
    sdecFields d (t :: ts) s = sbind (d t s) fun v s' =>
      sbind (sdecFields d ts s') fun vs s'' => (.val (v :: vs), s'') := by
  simp only [sdecFields]
  rcases d t s with ⟨_ | _ | _, s'⟩ <;> simp only [sbind_val, sbind_ret, sbind_fuel]
  rcases sdecFields d ts s' with ⟨_ | _ | _, _⟩ <;> rfl

theorem sdecMsgLoop_succ (d : Ty → SDec) (fds : List MsgField) (n : Nat) (s : RState) (acc : List (Nat × Val)) :
    sdecMsgLoop d fds (n+1) s acc =
      match fds.find? (fun fd => fd.idx == (sreadByte s).1) with
      | none => sleave (.msg acc) (sreadByte s).2
      | some fd => sbind (d fd.ty (sreadByte s).2) fun v s2 => sdecMsgLoop d fds n s2 (msgSet fd.idx v acc) := by
  simp only [sdecMsgLoop]
  cases fds.find? (fun fd => fd.idx == (sreadByte s).1) with
  | none => rfl
  | some fd => dsimp only; rcases d fd.ty (sreadByte s).2 with ⟨_ | _ | _, _⟩ <;> rfl

/-- The primitive types at once: the value is what the type makes of the bytes read — of no bytes, the zero
    value, when the read fails — and the reader is where the read left it. -/
theorem sdec_fixed {t : Ty} {n : Nat} (hs : fixedSize t = some n) (f : Nat) (env : Env) (s : RState) :
    sdec (f+1) env t s = (.val (primVal t ((sread n s).1.getD [])), (sread n s).2) := by
  have hd : dateNorm 0 = 0 := by decide
  have hg : guidRead [] = zeroGuid := by decide
  cases t <;> cases hs <;> simp only [sdec] <;> rcases sread _ s with ⟨_ | _, _⟩ <;>
    simp only [primVal, ofLe, Option.getD_none, Option.getD_some, hd, hg] <;> rfl

theorem sdec_arr (f : Nat) (env : Env) (t : Ty) (s : RState) :
    sdec (f+1) env (.arr t) s
      = sbind (sdecN (sdec f env t) (sreadU32 s).1 (sreadU32 s).2) fun vs s2 => (.val (.arr vs), s2) := by
  simp only [sdec]
  rcases sdecN _ _ _ with ⟨_ | _ | _, _⟩ <;> rfl

theorem sdec_map (f : Nat) (env : Env) (k v : Ty) (s : RState) :
    sdec (f+1) env (.map k v) s
      = sbind (sdecEntries k (sdec f env k) (sdec f env v) (sreadU32 s).1 (sreadU32 s).2 [])
          fun kvs s2 => (.val (.map kvs), s2) := by
  simp only [sdec]
  rcases sdecEntries _ _ _ _ _ _ with ⟨_ | _ | _, _⟩ <;> rfl

/-- A record field: `sdecRecord` with one unit of fuel less (it spends another before it decodes fields). -/
theorem sdec_ref (f : Nat) (env : Env) (n : Nat) (s : RState) : sdec (f+1) env (.ref n) s = sdecRecord f env n s := rfl

theorem sdecRecord_struct {f : Nat} {env : Env} {n : Nat} {t : Ty} {tys : List Ty} (s : RState)
    (h : env[n]? = some (.struct (t :: tys))) :
    sdecRecord (f+1) env n s
      = sbind (sdecFields (sdec f env) (t :: tys) s) fun vs s' => (if s'.err then .ret else .val (.struct vs), s') := by
  simp only [sdecRecord, h]
  rcases sdecFields _ _ _ with ⟨_ | _ | _, _⟩ <;> rfl

/-- The limited reader a message or union decoder installs after its length prefix. -/
def pushed (s : RState) (x : Nat) : RState :=
  ⟨(sreadU32 s).2.data, ((sreadU32 s).1 + x) :: (sreadU32 s).2.limits, (sreadU32 s).2.err⟩

theorem sdecRecord_msg {f : Nat} {env : Env} {n : Nat} {fds : List MsgField} (s : RState)
    (h : env[n]? = some (.msg fds)) :
    sdecRecord (f+1) env n s
      = sdecMsgLoop (sdec f env) fds ((pushed s Facts.msgLimitExtra).avail + 2) (pushed s Facts.msgLimitExtra) [] := by
  simp only [sdecRecord, h, pushed]

theorem sdecRecord_union {f : Nat} {env : Env} {n : Nat} {brs : List (Nat × Nat)} (s : RState)
    (h : env[n]? = some (.union brs)) :
    sdecRecord (f+1) env n s =
      match brs.lookup (sreadByte (pushed s Facts.unionLimitExtra)).1 with
      | none => sleave emptyUnion (sreadByte (pushed s Facts.unionLimitExtra)).2
      | some m => sbind (sdec f env (.ref m) (sreadByte (pushed s Facts.unionLimitExtra)).2) fun v s4 =>
          sleave (.union (sreadByte (pushed s Facts.unionLimitExtra)).1 v) s4 := by
  simp only [sdecRecord, h, pushed]
  cases brs.lookup _ with
  | none => rfl
  | some m => dsimp only; rcases sdec f env (.ref m) _ with ⟨_ | _ | _, _⟩ <;> rfl

end Bebop
