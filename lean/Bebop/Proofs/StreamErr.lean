/-
  The ErrorReader's latch is sticky: nothing the decoders do clears it.  And `DecodeBebop` ends with
  `return r.Err`: a value is returned with the latch clear (`sdecRecord_val`).
-/
import Bebop.Proofs.StreamBind

namespace Bebop

/-- A state transformer that never clears the latch. -/
def Sticky {α} (d : RState → α × RState) : Prop := ∀ s, s.err = true → (d s).2.err = true

theorem consume_err (s : RState) (k : Nat) : (s.consume k).err = s.err := rfl

theorem sread_sticky (n : Nat) : Sticky (sread n) := by
  intro s h
  unfold sread
  split <;> simp [consume_err, h]

/-- `ReadUint32` / `ReadByte` leave the reader where their one read left it. -/
theorem sreadU32_snd (s : RState) : (sreadU32 s).2 = (sread 4 s).2 := by
  unfold sreadU32
  split <;> simp_all

theorem sreadByte_snd (s : RState) : (sreadByte s).2 = (sread 1 s).2 := by
  unfold sreadByte
  split <;> simp_all

theorem sreadU32_sticky : Sticky sreadU32 := fun s h => by rw [sreadU32_snd]; exact sread_sticky 4 s h

theorem sreadByte_sticky : Sticky sreadByte := fun s h => by rw [sreadByte_snd]; exact sread_sticky 1 s h

theorem sleave_sticky (v : Val) : Sticky (sleave v) := by
  intro s h
  simp [sleave, sdrain, consume_err, h]

/-- Stated as an equation because the unifier, asked to see it, first compares `pushed s x` with `(sreadU32 s).2`. -/
theorem pushed_err (s : RState) (x : Nat) : (pushed s x).err = (sreadU32 s).2.err := by
  unfold pushed
  rfl

theorem pushed_sticky (x : Nat) {s : RState} (h : s.err = true) : (pushed s x).err = true := by
  rw [pushed_err]
  exact sreadU32_sticky s h

/-- A string: the bytes of the second read — none, when it fails — and the reader where that read left it. -/
theorem sdec_str (f : Nat) (env : Env) (s : RState) :
    sdec (f+1) env .str s
      = (.val (.str ((sread (sreadU32 s).1 (sreadU32 s).2).1.getD [])), (sread (sreadU32 s).1 (sreadU32 s).2).2) := by
  simp only [sdec]
  split <;> simp_all

theorem sbind_sticky {α β} {r : SOut α × RState} {k : α → RState → SOut β × RState} (hr : r.2.err = true)
    (hk : ∀ a, Sticky (k a)) : (sbind r k).2.err = true := by
  rcases r with ⟨_ | _ | _, s⟩
  · exact hk _ s hr
  · exact hr
  · exact hr

theorem sdecN_sticky (d : SDec) (hd : Sticky d) (n : Nat) : Sticky (sdecN d n) := by
  intro s h
  induction n generalizing s with
  | zero => exact h
  | succ n ih =>
    rw [sdecN_succ]
    refine sbind_sticky (hd s h) fun v s' h' => ?_
    split
    · exact h'
    · exact sbind_sticky (ih s' h') fun _ _ h => h

theorem sdecEntries_sticky (kt : Ty) (dk dv : SDec) (hk : Sticky dk) (hv : Sticky dv) (n : Nat)
    (acc : List (Val × Val)) (s : RState) (h : s.err = true) : (sdecEntries kt dk dv n s acc).2.err = true := by
  induction n generalizing s acc with
  | zero => exact h
  | succ n ih =>
    rw [sdecEntries_succ]
    refine sbind_sticky (hk s h) fun k s1 h1 => sbind_sticky (hv s1 h1) fun v s2 h2 => ?_
    split
    · exact h2
    · exact ih _ s2 h2

theorem sdecFields_sticky (d : Ty → SDec) (hd : ∀ t, Sticky (d t)) (tys : List Ty) : Sticky (sdecFields d tys) := by
  intro s h
  induction tys generalizing s with
  | nil => exact h
  | cons t ts ih =>
    rw [sdecFields_cons]
    exact sbind_sticky (hd t s h) fun v s' h' => sbind_sticky (ih s' h') fun _ _ h => h

/-- Once the read of the index byte has left the latch set, the iteration keeps it. -/
theorem sdecMsgLoop_err_of_byte (d : Ty → SDec) (hd : ∀ t, Sticky (d t)) (fds : List MsgField) :
    ∀ n acc s, (sreadByte s).2.err = true → (sdecMsgLoop d fds (n+1) s acc).2.err = true
  | n, acc, s, h1 => by
    rw [sdecMsgLoop_succ]
    split
    · exact sleave_sticky _ _ h1
    · refine sbind_sticky (hd _ _ h1) fun v s2 h2 => ?_
      match n with
      | 0 => exact h2
      | n+1 => exact sdecMsgLoop_err_of_byte d hd fds n _ s2 (sreadByte_sticky s2 h2)

theorem sdecMsgLoop_sticky (d : Ty → SDec) (hd : ∀ t, Sticky (d t)) (fds : List MsgField) :
    ∀ n acc s, s.err = true → (sdecMsgLoop d fds n s acc).2.err = true
  | 0, _, _, h => h
  | n+1, acc, s, h => sdecMsgLoop_err_of_byte d hd fds n acc s (sreadByte_sticky s h)

theorem sdec_sticky (env : Env) (f : Nat) (ty : Ty) : Sticky (sdec f env ty) := by
  induction f using Nat.strongRecOn generalizing ty with
  | ind f ih =>
  intro s h
  cases f with
  | zero => exact h
  | succ f =>
  have ihd := ih f (Nat.lt_succ_self f)
  cases hfx : fixedSize ty with
  -- `dsimp only` reduces `(_, s').2`; left to the unifier, it first compares the pair with `sread n s`
  | some n => rw [sdec_fixed hfx]; dsimp only; exact sread_sticky n s h
  | none =>
  cases ty with
  | bool | scalar | f32 | f64 | date | guid => cases hfx
  | str => rw [sdec_str]; dsimp only; exact sread_sticky _ _ (sreadU32_sticky s h)
  | arr t =>
    rw [sdec_arr]
    exact sbind_sticky (sdecN_sticky _ (ihd t) _ _ (sreadU32_sticky s h)) fun _ _ h => h
  | map k v =>
    rw [sdec_map]
    exact sbind_sticky (sdecEntries_sticky k _ _ (ihd k) (ihd v) _ [] _ (sreadU32_sticky s h)) fun _ _ h => h
  | ref n =>
    rw [sdec_ref]
    cases f with
    | zero => exact h
    | succ f =>
    have ihd := ih f (Nat.lt_succ_of_lt (Nat.lt_succ_self f))
    cases hn : env[n]? with
    | none => simp only [sdecRecord, hn]; exact h
    | some d =>
      cases d with
      | struct tys =>
        cases tys with
        | nil => simp only [sdecRecord, hn]; exact h
        | cons t tys =>
          rw [sdecRecord_struct s hn]
          exact sbind_sticky (sdecFields_sticky _ ihd _ s h) fun _ _ h => h
      | msg fds =>
        rw [sdecRecord_msg s hn]
        exact sdecMsgLoop_sticky _ ihd fds _ [] _ (pushed_sticky _ h)
      | union brs =>
        have h2 := sreadByte_sticky _ (pushed_sticky Facts.unionLimitExtra h)
        rw [sdecRecord_union s hn]
        split
        · exact sleave_sticky _ _ h2
        · exact sbind_sticky (ihd _ _ h2) fun _ => sleave_sticky _

/-! A record decoder that returns a value returns it with the latch clear (`return r.Err`), the empty struct
    apart, which returns nil whatever the latch says, and without reading.  So on a reader whose latch is
    clear, `DecodeBebop` returns nil only with the latch still clear. -/

theorem sbind_eq_val {α β} {r : SOut α × RState} {k : α → RState → SOut β × RState} {w : β} {s' : RState}
    (h : sbind r k = (.val w, s')) : ∃ a s0, k a s0 = (.val w, s') := by
  rcases r with ⟨a | _ | _, s0⟩
  · exact ⟨a, s0, h⟩
  · cases h
  · cases h

/-- `return r.Err` -/
theorem retErr_val {v w : Val} {s s' : RState} (h : ((if s.err then .ret else .val v : SOut Val), s) = (.val w, s')) :
    s'.err = false := by
  obtain ⟨h1, rfl⟩ := Prod.mk.inj h
  cases hb : s.err with
  | false => rfl
  | true => rw [hb] at h1; cases h1

theorem sdecMsgLoop_val {d : Ty → SDec} {fds : List MsgField} {n : Nat} {s s' : RState} {acc : List (Nat × Val)} {w : Val}
    (h : sdecMsgLoop d fds n s acc = (.val w, s')) : s'.err = false := by
  induction n generalizing s acc with
  | zero => cases h
  | succ n ih =>
    rw [sdecMsgLoop_succ] at h
    split at h
    · exact retErr_val h
    · obtain ⟨_, _, h⟩ := sbind_eq_val h
      exact ih h

theorem sdecRecord_val {f : Nat} {env : Env} {n : Nat} {s s' : RState} {w : Val}
    (h : sdecRecord f env n s = (.val w, s')) (hs : s.err = false) : s'.err = false := by
  cases f with
  | zero => cases h
  | succ f =>
  cases hn : env[n]? with
  | none => simp only [sdecRecord, hn] at h; cases h
  | some d =>
    cases d with
    | struct tys =>
      cases tys with
      | nil => simp only [sdecRecord, hn] at h; cases h; exact hs
      | cons t tys =>
        rw [sdecRecord_struct s hn] at h
        obtain ⟨_, _, h⟩ := sbind_eq_val h
        exact retErr_val h
    | msg fds =>
      rw [sdecRecord_msg s hn] at h
      exact sdecMsgLoop_val h
    | union brs =>
      rw [sdecRecord_union s hn] at h
      split at h
      · exact retErr_val h
      · obtain ⟨_, _, h⟩ := sbind_eq_val h
        exact retErr_val h

end Bebop
