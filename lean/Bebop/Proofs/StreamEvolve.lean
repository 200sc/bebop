/-
  The stream decoder of an older schema `env1`, on what a newer schema `env2` encoded, returns the value
  restricted to what `env1` knows and consumes exactly the encoding (C04, no guard).  With `env1 = env2`
  this is the stream round trip (C01 / C05).

  `sdec` recurses on its fuel, and its list and message loops take the element decoder as a parameter.  So
  the loops are treated once, for ANY element decoder that meets the specification on values of rank below
  `f` (`SDecSpec`), and the decoder itself by induction on the fuel.
-/
import Bebop.Proofs.Reads
import Bebop.Proofs.Restrict

namespace Bebop

/-- `d` does what the field decoder of `env1` should: on a healthy reader about to deliver the encoding of a
    value of `env2` of rank below `f`, it returns the restricted value and leaves the reader behind it. -/
def SDecSpec (env1 env2 : Env) (f : Nat) (d : Ty → SDec) : Prop :=
  ∀ ty v s, wt env2 ty v → rank v < f → Reads s (enc v) →
    d ty s = (.val (restrict env1 ty v), s.consume (enc v).length)

section Loops
variable {env1 env2 : Env} {f : Nat} {d : Ty → SDec} (hd : SDecSpec env1 env2 f d)
include hd

theorem sdecN_spec (t : Ty) (vs : List Val) (s : RState) (h : wtList env2 t vs) (hp : Progress vs)
    (hf : rankList vs < f) (hr : Reads s (encList vs)) :
    sdecN (d t) vs.length s = (.val (restrictList env1 t vs), s.consume (encList vs).length) := by
  induction vs generalizing s with
  | nil => simp [sdecN, encList, restrictList, consume_zero]
  | cons v vs ih =>
      obtain ⟨hf1, hf2⟩ := Nat.max_lt.mp hf
      obtain ⟨hr1, hr2⟩ := hr.split
      have hg : ¬ ((s.consume (enc v).length).data.length = s.data.length ∧ loopSlack ≤ vs.length) :=
        fun ⟨hl, hs⟩ => hp.head_guard ⟨Nat.add_eq_left.mp (hr1.data_length.trans hl.symm), hs⟩
      simp only [List.length_cons, sdecN, hd t v s h.1 hf1 hr1, hg, if_false, ih _ h.2 hp.tail hf2 hr2,
        consume_consume, encList, restrictList, List.length_append]

/-- The map being built is whatever Go's assignments make of it: distinct keys are needed only to say that it
    is the entries in order (`foldl_mapInsert_fresh`). -/
theorem sdecEntries_spec {k : Ty} (hkt : isKeyTy k = true) (t : Ty) (kvs : List (Val × Val)) (s : RState)
    (acc : List (Val × Val)) (h : wtKVs env2 k t kvs) (hf : rankKVs kvs < f) (hr : Reads s (encKVs kvs)) :
    sdecEntries k (d k) (d t) kvs.length s acc
      = (.val (kvs.foldl (fun acc kv => mapInsert k kv.1 (restrict env1 t kv.2) acc) acc), s.consume (encKVs kvs).length) := by
  induction kvs generalizing s acc with
  | nil => simp [sdecEntries, encKVs, consume_zero]
  | cons p kvs ih =>
      obtain ⟨a, b⟩ := p
      obtain ⟨hf12, hf3⟩ := Nat.max_lt.mp hf
      obtain ⟨hf1, hf2⟩ := Nat.max_lt.mp hf12
      obtain ⟨hr12, hr3⟩ := hr.split
      obtain ⟨hr1, hr2⟩ := hr12.split
      have hg : ¬ (((s.consume (enc a).length).consume (enc b).length).data.length = s.data.length ∧
          loopSlack ≤ kvs.length) := by
        have e1 := hr1.data_length
        have e2 := hr2.data_length
        have := key_enc_pos env2 k hkt a h.1
        omega
      rw [List.length_append, ← consume_consume] at hr3
      simp only [List.length_cons, sdecEntries, hd k a s h.1 hf1 hr1, (key_plain env1 hkt h.1).1,
        hd t b _ h.2.1 hf2 hr2, hg, if_false, ih _ _ h.2.2 hf3 hr3, List.foldl_cons]
      simp only [consume_consume, encKVs, List.length_append]

theorem sdecFields_spec (fs : List Val) (tys : List Ty) (s : RState) (h : wtStruct env2 tys fs)
    (hf : rankList fs < f) (hr : Reads s (encList fs)) :
    sdecFields d tys s = (.val (restrictStruct env1 tys fs), s.consume (encList fs).length) := by
  induction fs generalizing tys s with
  | nil =>
    cases tys with
    | nil => simp [sdecFields, encList, restrictStruct, consume_zero]
    | cons _ _ => exact h.elim
  | cons v vs ih =>
    cases tys with
    | nil => exact h.elim
    | cons t tys =>
      obtain ⟨hf1, hf2⟩ := Nat.max_lt.mp hf
      obtain ⟨hr1, hr2⟩ := hr.split
      simp only [sdecFields, hd t v s h.1 hf1 hr1, ih _ _ h.2 hf2 hr2, consume_consume, encList, restrictStruct,
        List.length_append]

/-- The message loop decodes the fields the reader knows; at the first index it does not know — the
    terminator, or an index above every index it knows, after which nothing it knows can follow — it leaves.
    Where in the body that happens does not show: leaving there is leaving at once (`Reads.leave`). -/
theorem sdecMsgLoop_spec {fds fds2 : List MsgField} (hok : DefOk (.msg fds)) (hx : DefExtends (.msg fds) (.msg fds2))
    (fs : List (Nat × Val)) (s : RState) (lo : Nat) (acc : List (Nat × Val)) (h : wtMsg env2 fds2 lo fs)
    (hacc : ∀ a ∈ acc, a.1 ≤ lo) (hf : rankFields fs < f) (hr : Reads s (encFields fs ++ [0])) (n : Nat)
    (hn : fs.length < n) :
    sdecMsgLoop d fds n s acc = sleave (.msg (acc ++ restrictFields env1 fds fs)) s := by
  induction n generalizing fs s lo acc with
  | zero => exact absurd hn (Nat.not_lt_zero _)
  | succ n ih =>
  cases fs with
  | nil =>
      simp only [sdecMsgLoop, (Reads.byte (x := 0) hr).1, UInt8.toNat_zero, find_zero_none hok, restrictFields,
        List.append_nil]
      exact hr.leave _ (Nat.le_refl 1)
  | cons p fs =>
      obtain ⟨i, v⟩ := p
      have hwhole := h
      obtain ⟨hlo, hi, ⟨fd2, hfd2, _, hwv⟩, hrest⟩ := h
      obtain ⟨hf1, hf2⟩ := Nat.max_lt.mp hf
      have hr0 : Reads s (UInt8.ofNat i :: (enc v ++ (encFields fs ++ [0]))) := by simpa [encFields] using hr
      have h1 : ∀ w, sleave w (s.consume 1) = sleave w s := fun w => hr0.leave w (Nat.succ_le_succ (Nat.zero_le _))
      obtain ⟨hb, hr'⟩ := hr0.byte
      rw [UInt8.toNat_ofNat_of_lt' hi] at hb
      rcases hx.at_field hfd2 with ⟨fd, hfd, hty⟩ | ⟨hnone, habove⟩
      · -- the reader knows the field
        have hidx : fd.idx = i := find_msgField fds i fd hfd
        obtain ⟨hset, hacc'⟩ := msgSet_snoc hacc hlo (restrict env1 fd.ty v)
        rw [← hty] at hwv
        obtain ⟨hr2, hr3⟩ := hr'.split
        simp only [sdecMsgLoop, hb, hfd, hd fd.ty v _ hwv hf1 hr2, hidx, hset,
          ih fs _ i _ hrest hacc' hf2 hr3 (Nat.lt_of_succ_lt_succ hn), hr2.leave _ (Nat.le_refl _), h1, restrictFields,
          List.append_assoc, List.singleton_append]
      · -- first unknown index: leave
        simp only [sdecMsgLoop, hb, hnone, restrictFields_above env1 env2 fds fds2 i v fs lo hwhole habove,
          List.append_nil, h1]

end Loops

/-- The field decoder of the older schema meets its specification at every fuel. -/
theorem sdec_evo {env1 env2 : Env} (hE1 : EnvOk env1) (hx : Extends env1 env2) (f : Nat) :
    SDecSpec env1 env2 f (sdec f env1) := by
  induction f using Nat.strongRecOn with
  | ind f ih =>
  intro ty v s h hf hr
  cases f with
  | zero => exact absurd hf (Nat.not_lt_zero _)
  | succ f =>
  have ihf := ih f (Nat.lt_succ_self f)
  -- what is inside a record is decoded with two units less (`fuel_record`)
  have ihr : ∀ g, f = g + 1 → SDecSpec env1 env2 g (sdec g env1) := fun g hg => ih g (by omega)
  cases v with
  | scalar w n => exact sdec_enc_fixed (fixedSize_of_wt_scalar h) h f env1 s hr
  | str bs =>
      obtain ⟨rfl, hl⟩ := h
      obtain ⟨hu, h2⟩ := hr.u32 hl
      simp [sdec, enc, restrict, hu, sread_reads _ _ bs rfl h2, consume_consume]
  | guid bs => exact sdec_enc_fixed (n := 16) (by obtain ⟨rfl, _⟩ := h; rfl) h f env1 s hr
  | arr vs =>
      obtain ⟨t, rfl, hl, hw, hp⟩ := h
      have hf : 1 + rankList vs < f + 1 := hf
      obtain ⟨hu, h2⟩ := hr.u32 hl
      simp only [sdec_arr, hu, sdecN_spec ihf t vs _ hw hp (fuel_list hf) h2, sbind_val, enc, restrict, consume_consume,
        List.length_append, length_leBytes]
  | map kvs =>
      obtain ⟨k, t, rfl, hkt, hl, hw, hd⟩ := h
      have hf : 1 + rankKVs kvs < f + 1 := hf
      obtain ⟨hu, h2⟩ := hr.u32 hl
      simp only [sdec_map, hu, sdecEntries_spec ihf hkt t kvs _ [] hw (fuel_list hf) h2, sbind_val,
        foldl_mapInsert_fresh k _ kvs [] hd nofun, restrictKVs_eq_map, enc, restrict, List.nil_append, consume_consume,
        List.length_append, length_leBytes]
  | struct fs =>
      obtain ⟨n, tys, rfl, hn, hw⟩ := h
      obtain ⟨g, rfl, hg⟩ := fuel_record hf
      have he : (s.consume (encList fs).length).err = false := hr.1
      have hn1 := hx.get_struct hn
      cases tys with
      | nil =>
        cases fs with
        | nil => simp [sdec, sdecRecord, hn1, enc, encList, restrict, restrictStruct, consume_zero]
        | cons _ _ => exact hw.elim
      | cons t tys =>
        simp [sdec_ref, sdecRecord_struct s hn1, sdecFields_spec (ihr g rfl) fs (t :: tys) s hw hg hr, he, enc,
          restrict, hn1]
  | msg fs =>
      obtain ⟨n, fds2, rfl, hn, hw, hsz⟩ := h
      obtain ⟨fds, hn1, hd⟩ := hx.get_msg hn
      obtain ⟨g, rfl, hg⟩ := fuel_record hf
      rw [enc_msg] at hr ⊢
      obtain ⟨h3, hleave⟩ := hr.frame Facts.msgLimitExtra (by rw [length_encFields]; exact hsz)
        (by simp [Facts.msgLimitExtra])
      -- the loop is given more fuel than there are fields: one byte at least for each
      have hfl := length_le_encFields fs
      have hav := h3.le_avail
      simp only [List.length_append, List.length_singleton] at hav
      rw [sdec_ref, sdecRecord_msg s hn1, sdecMsgLoop_spec (ihr g rfl) (hE1 _ (List.mem_of_getElem? hn1)) hd fs _ 0 []
        hw nofun hg h3 _ (by omega), hleave]
      simp [restrict, hn1]
  | union d v =>
      obtain ⟨n, brs, m, rfl, hn, hd, hm, hw, hsz⟩ := h
      obtain ⟨g, rfl, hg⟩ := fuel_record hf
      rw [enc_union] at hr ⊢
      obtain ⟨h3, hleave⟩ := hr.frame Facts.unionLimitExtra (by rw [length_enc]; exact hsz)
        (by simp [Facts.unionLimitExtra])
      obtain ⟨hb, h5⟩ := h3.byte
      have hn1 := hx.get_union hn
      simp only [sdec_ref, sdecRecord_union s hn1, hb, UInt8.toNat_ofNat_of_lt' hd, hm,
        ihr g rfl (.ref m) v _ hw hg h5, sbind_val, restrict, hn1]
      rw [h5.leave _ (Nat.le_refl _), h3.leave _ (Nat.succ_le_succ (Nat.zero_le _)), hleave]
      simp

/-! ### The loops of the decoder itself, and the round trip as the case `env1 = env2` -/

theorem sdecN_evo (env1 env2 : Env) (hE1 : EnvOk env1) (hx : Extends env1 env2) :
    (vs : List Val) → ∀ (t : Ty) (f : Nat) (s : RState), wtList env2 t vs → Progress vs → rankList vs < f →
      Reads s (encList vs) →
      sdecN (sdec f env1 t) vs.length s = (.val (restrictList env1 t vs), s.consume (encList vs).length) :=
  fun vs t f s => sdecN_spec (sdec_evo hE1 hx f) t vs s

theorem sdecEntries_evo (env1 env2 : Env) (hE1 : EnvOk env1) (hx : Extends env1 env2) :
    (kvs : List (Val × Val)) → ∀ (k t : Ty) (f : Nat) (s : RState) (acc : List (Val × Val)),
      isKeyTy k = true → wtKVs env2 k t kvs → keysDistinct k kvs → (∀ a ∈ acc, ∀ kv ∈ kvs, keyEq k a.1 kv.1 = false) →
      rankKVs kvs < f → Reads s (encKVs kvs) →
      sdecEntries k (sdec f env1 k) (sdec f env1 t) kvs.length s acc
        = (.val (acc ++ restrictKVs env1 t kvs), s.consume (encKVs kvs).length) :=
  fun kvs k t f s acc hkt hw hd hacc hf hr => by
    rw [sdecEntries_spec (sdec_evo hE1 hx f) hkt t kvs s acc hw hf hr, foldl_mapInsert_fresh k _ kvs acc hd hacc,
      restrictKVs_eq_map]

theorem sdecFields_evo (env1 env2 : Env) (hE1 : EnvOk env1) (hx : Extends env1 env2) :
    (fs : List Val) → ∀ (tys : List Ty) (f : Nat) (s : RState), wtStruct env2 tys fs → rankList fs < f →
      Reads s (encList fs) →
      sdecFields (sdec f env1) tys s = (.val (restrictStruct env1 tys fs), s.consume (encList fs).length) :=
  fun fs tys f s => sdecFields_spec (sdec_evo hE1 hx f) fs tys s

/-- Stated with the innermost limited reader ending exactly where the message ends; that is not needed
    (`sdecMsgLoop_spec`): `Drain` reads to the end of whatever limited reader there is. -/
theorem sdecMsgLoop_evo (env1 env2 : Env) (hE1 : EnvOk env1) (hx : Extends env1 env2) :
    (fs : List (Nat × Val)) → ∀ (fds fds2 : List MsgField) (f : Nat) (s : RState) (lo : Nat)
      (acc : List (Nat × Val)) (n : Nat) (ls : List Nat), DefOk (.msg fds) → DefExtends (.msg fds) (.msg fds2) →
      wtMsg env2 fds2 lo fs → (∀ a ∈ acc, a.1 ≤ lo) →
      rankFields fs < f → Reads s (encFields fs ++ [0]) → s.limits = ((encFields fs).length + 1) :: ls →
      fs.length < n →
      sdecMsgLoop (sdec f env1) fds n s acc
        = sleave (.msg (acc ++ restrictFields env1 fds fs)) (s.consume ((encFields fs).length + 1)) := by
  intro fs fds fds2 f s lo acc n ls hok hd hw hacc hf hr _ hn
  rw [sdecMsgLoop_spec (sdec_evo hE1 hx f) hok hd fs s lo acc hw hacc hf hr n hn, hr.leave _ (by simp)]

/-- `DecodeBebop` on a stream that starts with the record, whatever follows it. -/
theorem decodeStream_evo {env1 env2 : Env} (hE1 : EnvOk env1) (hx : Extends env1 env2) {n : Nat} {v : Val}
    (hw : wt env2 (.ref n) v) {f : Nat} (hf : rank v < f) (rest : List Byte) :
    decodeStream f env1 n (enc v ++ rest) = .ok (restrict env1 (.ref n) v) (enc v).length := by
  have := sdec_evo hE1 hx (f+1) (.ref n) v ⟨enc v ++ rest, [], false⟩ hw (by omega) ⟨rfl, ⟨rest, rfl⟩, by simp⟩
  simp [decodeStream, ← sdec_ref, this, RState.consume]

theorem sdecN_enc (env : Env) (hE : EnvOk env) :
    (vs : List Val) → ∀ (t : Ty) (f : Nat) (s : RState), wtList env t vs → Progress vs → rankList vs < f →
      Reads s (encList vs) →
      sdecN (sdec f env t) vs.length s = (.val vs, s.consume (encList vs).length) := by
  intro vs t f s h hp hf hr
  rw [sdecN_evo env env hE (Extends.refl env) vs t f s h hp hf hr, restrictList_id env env (Extends.refl env) vs t h]

theorem sdecEntries_enc (env : Env) (hE : EnvOk env) :
    (kvs : List (Val × Val)) → ∀ (k t : Ty) (f : Nat) (s : RState) (acc : List (Val × Val)),
      isKeyTy k = true → wtKVs env k t kvs → keysDistinct k kvs → (∀ a ∈ acc, ∀ kv ∈ kvs, keyEq k a.1 kv.1 = false) →
      rankKVs kvs < f → Reads s (encKVs kvs) →
      sdecEntries k (sdec f env k) (sdec f env t) kvs.length s acc = (.val (acc ++ kvs), s.consume (encKVs kvs).length) := by
  intro kvs k t f s acc hkt h hd hacc hf hr
  rw [sdecEntries_evo env env hE (Extends.refl env) kvs k t f s acc hkt h hd hacc hf hr,
    restrictKVs_id env env (Extends.refl env) kvs k t h]

theorem sdecFields_enc (env : Env) (hE : EnvOk env) :
    (fs : List Val) → ∀ (tys : List Ty) (f : Nat) (s : RState), wtStruct env tys fs → rankList fs < f →
      Reads s (encList fs) →
      sdecFields (sdec f env) tys s = (.val fs, s.consume (encList fs).length) := by
  intro fs tys f s h hf hr
  rw [sdecFields_evo env env hE (Extends.refl env) fs tys f s h hf hr,
    restrictStruct_id env env (Extends.refl env) fs tys h]

theorem sdecMsgLoop_enc (env : Env) (hE : EnvOk env) :
    (fs : List (Nat × Val)) → ∀ (fds : List MsgField) (f : Nat) (s : RState) (lo : Nat)
      (acc : List (Nat × Val)) (n : Nat), DefOk (.msg fds) → wtMsg env fds lo fs → (∀ a ∈ acc, a.1 ≤ lo) →
      rankFields fs < f → Reads s (encFields fs ++ [0]) → fs.length < n →
      sdecMsgLoop (sdec f env) fds n s acc = sleave (.msg (acc ++ fs)) (s.consume ((encFields fs).length + 1)) := by
  intro fs fds f s lo acc n hok hw hacc hf hr hn
  rw [sdecMsgLoop_spec (sdec_evo hE (Extends.refl env) f) hok (DefExtends.refl _) fs s lo acc hw hacc hf hr n hn,
    restrictFields_id env env (Extends.refl env) fs fds fds lo (DefExtends.refl _) hw, hr.leave _ (by simp)]

end Bebop
