/-
  Helper lemmas: the fuel argument of the STREAM decoder model (`sdec` / `sdecRecord`) is an artefact too.
  `SExt r r'`: `r'` is `r` unless `r` is the out-of-fuel answer.  More fuel only extends the
  answer (`sdec_ext`), so an answer of `decodeStream` other than `.fuel` is its answer for every larger fuel.
-/
import Bebop.Proofs.StreamBind

namespace Bebop

def SExt {α} (r r' : SOut α × RState) : Prop := r.1 = .fuel ∨ r' = r

/-- Sequencing: an extended first part followed by extended continuations is an extension. -/
theorem SExt.bind {α β} {r r' : SOut α × RState} {k k' : α → RState → SOut β × RState} (h : SExt r r')
    (hk : ∀ a s, SExt (k a s) (k' a s)) : SExt (sbind r k) (sbind r' k') := by
  rcases h with h | rfl
  · left; rcases r with ⟨_ | _ | _, s⟩ <;> first | rfl | cases h
  · rcases r' with ⟨_ | _ | _, s⟩
    · exact hk _ s
    · exact Or.inr rfl
    · exact Or.inl rfl

theorem SExt.bind_left {α β} {r r' : SOut α × RState} (h : SExt r r') (g : α → RState → SOut β × RState) :
    SExt (sbind r g) (sbind r' g) := h.bind fun _ _ => Or.inr rfl

theorem sdecN_ext (d d' : SDec) (h : ∀ s, SExt (d s) (d' s)) (n : Nat) (s : RState) :
    SExt (sdecN d n s) (sdecN d' n s) := by
  induction n generalizing s with
  | zero => exact Or.inr rfl
  | succ n ih =>
    rw [sdecN_succ, sdecN_succ]
    refine (h s).bind fun v s' => ?_
    split
    · exact Or.inl rfl
    · exact (ih s').bind_left _

theorem sdecEntries_ext (kt : Ty) (dk dk' dv dv' : SDec) (hk : ∀ s, SExt (dk s) (dk' s))
    (hv : ∀ s, SExt (dv s) (dv' s)) (n : Nat) (s : RState) (acc : List (Val × Val)) :
    SExt (sdecEntries kt dk dv n s acc) (sdecEntries kt dk' dv' n s acc) := by
  induction n generalizing s acc with
  | zero => exact Or.inr rfl
  | succ n ih =>
    rw [sdecEntries_succ, sdecEntries_succ]
    refine (hk s).bind fun k s1 => (hv s1).bind fun v s2 => ?_
    split
    · exact Or.inl rfl
    · exact ih s2 _

theorem sdecFields_ext (d d' : Ty → SDec) (h : ∀ t s, SExt (d t s) (d' t s)) (tys : List Ty) (s : RState) :
    SExt (sdecFields d tys s) (sdecFields d' tys s) := by
  induction tys generalizing s with
  | nil => exact Or.inr rfl
  | cons t ts ih =>
    rw [sdecFields_cons, sdecFields_cons]
    exact (h t s).bind fun v s' => (ih s').bind_left _

theorem sdecMsgLoop_ext (d d' : Ty → SDec) (h : ∀ t s, SExt (d t s) (d' t s)) (fds : List MsgField) (n : Nat)
    (s : RState) (acc : List (Nat × Val)) : SExt (sdecMsgLoop d fds n s acc) (sdecMsgLoop d' fds n s acc) := by
  induction n generalizing s acc with
  | zero => exact Or.inl rfl
  | succ n ih =>
    rw [sdecMsgLoop_succ, sdecMsgLoop_succ]
    split
    · exact Or.inr rfl
    · exact (h _ _).bind fun v s2 => ih s2 _

theorem sdec_ext (env : Env) (f g : Nat) (hfg : f ≤ g) (ty : Ty) (s : RState) :
    SExt (sdec f env ty s) (sdec g env ty s) := by
  -- with `g = f + k` both fuels step down together, and no case `g = 0 < f` arises
  obtain ⟨k, rfl⟩ := Nat.le.dest hfg
  clear hfg
  induction f using Nat.strongRecOn generalizing ty s with
  | ind f ih =>
  cases f with
  | zero => exact Or.inl rfl
  | succ f =>
    rw [Nat.add_right_comm]
    have ihd := ih f (Nat.lt_succ_self f)
    cases ty with
    | arr t => simp only [sdec_arr]; exact (sdecN_ext _ _ (ihd t) _ _).bind_left _
    | map k v => simp only [sdec_map]; exact (sdecEntries_ext k _ _ _ _ (ihd k) (ihd v) _ _ []).bind_left _
    | ref n =>
      rw [sdec_ref, sdec_ref]
      cases f with
      | zero => exact Or.inl rfl
      | succ f =>
        rw [Nat.add_right_comm]
        have ihd := ih f (Nat.lt_succ_of_lt (Nat.lt_succ_self f))
        cases hn : env[n]? with
        | none => simp only [sdecRecord, hn]; exact Or.inr rfl
        | some d =>
          cases d with
          | struct tys =>
            cases tys with
            | nil => simp only [sdecRecord, hn]; exact Or.inr rfl
            | cons t ts => simp only [sdecRecord_struct s hn]; exact (sdecFields_ext _ _ ihd _ s).bind_left _
          | msg fds => simp only [sdecRecord_msg s hn]; exact sdecMsgLoop_ext _ _ ihd fds _ _ _
          | union brs =>
            simp only [sdecRecord_union s hn]
            split
            · exact Or.inr rfl
            · exact (ihd _ _).bind_left _
    | _ => exact Or.inr rfl

def SRes.isFuel : SRes → Bool | .fuel => true | _ => false

theorem decodeStream_fuel_mono (env : Env) (f g : Nat) (hfg : f ≤ g) (n : Nat) (data : List Byte)
    (h : (decodeStream f env n data).isFuel = false) :
    decodeStream g env n data = decodeStream f env n data := by
  have key : SExt (sdecRecord f env n ⟨data, [], false⟩) (sdecRecord g env n ⟨data, [], false⟩) :=
    sdec_ext env (f+1) (g+1) (Nat.succ_le_succ hfg) (.ref n) _
  simp only [decodeStream] at h ⊢
  rcases key with h2 | h2
  · rw [show sdecRecord f env n ⟨data, [], false⟩ = (.fuel, (sdecRecord f env n ⟨data, [], false⟩).2) from
      Prod.ext h2 rfl] at h
    cases h
  · rw [h2]

end Bebop
