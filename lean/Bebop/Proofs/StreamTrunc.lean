/-
  A stream that ends (EOF or I/O error) strictly inside a valid encoding makes DecodeBebop fail.

  `Doomed s bs`: the decoder cannot get `bs` out of the reader — the latch is already set, or the stream
  ends strictly inside `bs` (`Cut`).  Having the first alternative in the invariant is what makes it go
  through sequencing (`Doomed.bind`): once the first part has failed, what follows starts with the latch set.
-/
import Bebop.Proofs.StreamErr
import Bebop.Proofs.StreamEvolve

namespace Bebop

/-- The reader is healthy, but will deliver only the first `k` bytes of `bs` (`k < |bs|`) and then end. -/
def Cut (s : RState) (bs : List Byte) (k : Nat) : Prop :=
  s.err = false ∧ s.data = bs.take k ∧ k < bs.length ∧ ∀ l ∈ s.limits, k ≤ l

/-- The decoder did not get away with it: the latch is set (or the model ran out of fuel). -/
def Bad {α} (r : SOut α × RState) : Prop := r.1 = .fuel ∨ r.2.err = true

/-- A failed first part fails the whole, provided what follows does not clear the latch. -/
theorem Bad.bind {α β} {r : SOut α × RState} {k : α → RState → SOut β × RState} (h : Bad r)
    (hk : ∀ a s, s.err = true → Bad (k a s)) : Bad (sbind r k) := by
  rcases r with ⟨_ | _ | _, s⟩
  · exact hk _ s (h.resolve_left (by simp))
  · exact Or.inr (h.resolve_left (by simp))
  · exact Or.inl rfl

/-- The decoder cannot get `bs` out of the reader: the latch is set, or the stream is cut inside `bs`. -/
def Doomed (s : RState) (bs : List Byte) : Prop := s.err = true ∨ ∃ k, Cut s bs k

theorem Doomed.nil {s : RState} (h : Doomed s []) : s.err = true :=
  h.elim id fun ⟨_, hc⟩ => absurd hc.2.2.1 (by simp)

/-- The cut is in `a`, or `a` can be read and the cut is in `b`. -/
theorem Doomed.split {s : RState} {a b : List Byte} (h : Doomed s (a ++ b)) :
    Doomed s a ∨ (Reads s a ∧ Doomed (s.consume a.length) b) := by
  rcases h with h | ⟨k, he, hd, hk, hl⟩
  · exact Or.inl (Or.inl h)
  · rw [List.take_append] at hd
    rw [List.length_append] at hk
    by_cases hle : a.length ≤ k
    · rw [List.take_of_length_le hle] at hd
      exact Or.inr ⟨⟨he, ⟨_, hd⟩, fun l hl' => Nat.le_trans hle (hl l hl')⟩,
        Or.inr ⟨k - a.length, he, by simp only [RState.consume, hd, List.drop_left], Nat.sub_lt_left_of_lt_add hle hk,
          List.forall_mem_map.2 fun l hl' => Nat.sub_le_sub_right (hl l hl') _⟩⟩
    · rw [Nat.sub_eq_zero_of_le (Nat.le_of_not_le hle), List.take_zero, List.append_nil] at hd
      exact Or.inl (Or.inr ⟨k, he, hd, Nat.lt_of_not_le hle, hl⟩)

/-- A read of at least `|bs|` bytes fails (or the latch was set before). -/
theorem Doomed.sread {s : RState} {bs : List Byte} (h : Doomed s bs) {n : Nat} (hn : bs.length ≤ n) :
    (sread n s).2.err = true := by
  rcases h with h | ⟨k, _, hd, hk, _⟩
  · exact sread_sticky n s h
  · have : s.avail ≤ s.data.length := ((s.le_avail_iff _).mp (Nat.le_refl _)).1
    rw [hd, List.length_take] at this
    simp [Bebop.sread, show ¬ n ≤ s.avail by omega]

/-- A length prefix: the read fails, or it returns `n` and the stream ends in what follows. -/
theorem Doomed.u32 {s : RState} {n : Nat} {b : List Byte} (h : Doomed s (leBytes 4 n ++ b)) (hn : n < 2^32) :
    (sreadU32 s).2.err = true ∨ (sreadU32 s = (n, s.consume 4) ∧ Doomed (s.consume 4) b) := by
  rcases h.split with h | ⟨hr, h⟩
  · exact Or.inl (by rw [sreadU32_snd]; exact h.sread (by simp))
  · exact Or.inr ⟨(Reads.u32 (b := []) (by simpa using hr) hn).1, by simpa using h⟩

theorem Doomed.byte {s : RState} {x : Byte} {b : List Byte} (h : Doomed s (x :: b)) :
    (sreadByte s).2.err = true ∨ (sreadByte s = (x.toNat, s.consume 1) ∧ Doomed (s.consume 1) b) := by
  rcases Doomed.split (a := [x]) h with h | ⟨hr, h⟩
  · exact Or.inl (by rw [sreadByte_snd]; exact h.sread (by simp))
  · exact Or.inr ⟨(Reads.byte (b := []) hr).1, h⟩

/-- Sequencing: `r` is the result of a decoder that is to read `a`, and `k` is to read the rest.  Either the
    decoder fails, and `k` starts with the latch set, or it reads `a` and the stream ends on `k`. -/
theorem Doomed.bind {α β} {s : RState} {a b : List Byte} {r : SOut α × RState} {w : α}
    {k : α → RState → SOut β × RState} (h : Doomed s (a ++ b))
    (hrt : Reads s a → r = (.val w, s.consume a.length)) (hcut : Doomed s a → Bad r)
    (hk : ∀ w s', Doomed s' b → Bad (k w s')) : Bad (sbind r k) := by
  rcases h.split with h | ⟨hr, h⟩
  · exact (hcut h).bind fun w s' h' => hk w s' (Or.inl h')
  · rw [hrt hr]; exact hk w _ h

section Loops
variable {env : Env} {f : Nat} {d : Ty → SDec}
  (hrt : SDecSpec env env f d)
  (hcut : ∀ ty v s, wt env ty v → rank v < f → Doomed s (enc v) → Bad (d ty s))
include hrt hcut

theorem sdecN_doomed (vs : List Val) (t : Ty) (s : RState) (hw : wtList env t vs) (hf : rankList vs < f)
    (h : Doomed s (encList vs)) : Bad (sdecN (d t) vs.length s) := by
  induction vs generalizing s with
  | nil => exact Or.inr h.nil
  | cons v vs ih =>
      obtain ⟨hv, hf⟩ := Nat.max_lt.mp hf
      rw [List.length_cons, sdecN_succ]
      refine Doomed.bind h (hrt t v s hw.1 hv) (hcut t v s hw.1 hv) fun _ s' h' => ?_
      split
      · exact Or.inl rfl
      · exact (ih s' hw.2 hf h').bind fun _ _ h => Or.inr h

theorem sdecEntries_doomed (kvs : List (Val × Val)) (kt t : Ty) (s : RState) (acc : List (Val × Val))
    (hw : wtKVs env kt t kvs) (hf : rankKVs kvs < f) (h : Doomed s (encKVs kvs)) :
    Bad (sdecEntries kt (d kt) (d t) kvs.length s acc) := by
  induction kvs generalizing s acc with
  | nil => exact Or.inr h.nil
  | cons ab kvs ih =>
      obtain ⟨a, b⟩ := ab
      obtain ⟨hab, hf⟩ := Nat.max_lt.mp hf
      obtain ⟨ha, hb⟩ := Nat.max_lt.mp hab
      replace h : Doomed s (enc a ++ (enc b ++ encKVs kvs)) := List.append_assoc .. ▸ h
      rw [List.length_cons, sdecEntries_succ]
      refine Doomed.bind h (hrt kt a s hw.1 ha) (hcut kt a s hw.1 ha) fun _ s1 h1 =>
        Doomed.bind h1 (hrt t b s1 hw.2.1 hb) (hcut t b s1 hw.2.1 hb) fun _ s2 h2 => ?_
      split
      · exact Or.inl rfl
      · exact ih s2 _ hw.2.2 hf h2

theorem sdecFields_doomed (fs : List Val) (tys : List Ty) (s : RState) (hw : wtStruct env tys fs) (hf : rankList fs < f)
    (h : Doomed s (encList fs)) : Bad (sdecFields d tys s) := by
  induction fs generalizing tys s with
  | nil =>
      cases tys with
      | nil => exact Or.inr h.nil
      | cons _ _ => exact hw.elim
  | cons v vs ih =>
      cases tys with
      | nil => exact hw.elim
      | cons t tys =>
        obtain ⟨hv, hf⟩ := Nat.max_lt.mp hf
        rw [sdecFields_cons]
        exact Doomed.bind h (hrt t v s hw.1 hv) (hcut t v s hw.1 hv) fun _ s' h' =>
          (ih tys s' hw.2 hf h').bind fun _ _ h => Or.inr h

theorem sdecMsgLoop_doomed (hst : ∀ t, Sticky (d t)) (fs : List (Nat × Val)) (fds : List MsgField) (s : RState)
    (lo : Nat) (acc : List (Nat × Val)) (n : Nat) (hw : wtMsg env fds lo fs) (hf : rankFields fs < f)
    (h : Doomed s (encFields fs ++ [0])) : Bad (sdecMsgLoop d fds n s acc) := by
  induction n generalizing fs s lo acc with
  | zero => exact Or.inl rfl
  | succ n ih =>
    cases fs with
    | nil =>
        exact Or.inr (sdecMsgLoop_err_of_byte d hst fds n acc s (by rw [sreadByte_snd]; exact h.sread (Nat.le_refl _)))
    | cons iv fs =>
        obtain ⟨i, v⟩ := iv
        obtain ⟨-, hi, ⟨fd, hfd, -, hwv⟩, hrest⟩ := hw
        obtain ⟨hv, hf⟩ := Nat.max_lt.mp hf
        replace h : Doomed s (UInt8.ofNat i :: (enc v ++ (encFields fs ++ [0]))) := List.append_assoc .. ▸ h
        rcases h.byte with h | ⟨hb, h⟩
        · exact Or.inr (sdecMsgLoop_err_of_byte d hst fds n acc s h)
        · rw [sdecMsgLoop_succ, hb]
          simp only [UInt8.toNat_ofNat_of_lt' hi, hfd]
          exact Doomed.bind h (hrt fd.ty v _ hwv hv) (hcut fd.ty v _ hwv hv) fun _ s2 h2 =>
            ih fs s2 i _ hrest hf h2

end Loops

/-- The limited reader installed behind a length prefix (`Reads.frame` for a stream that ends in the prefix
    or in the body): the stream still ends inside the body. -/
theorem Doomed.frame {s : RState} {n : Nat} {body : List Byte} (x : Nat) (h : Doomed s (leBytes 4 n ++ body))
    (hn : n < 2^32) (hb : body.length ≤ n + x) : Doomed (pushed s x) body := by
  rcases h.u32 hn with h | ⟨hu, h⟩
  · exact Or.inl (by rw [pushed_err]; exact h)
  · simp only [pushed, hu]
    exact h.imp id fun ⟨k, he, hd, hk, hl⟩ =>
      ⟨k, he, hd, hk, List.forall_mem_cons.2 ⟨Nat.le_trans (Nat.le_of_lt hk) hb, hl⟩⟩

theorem strunc_dec (env : Env) (hE : EnvOk env) (f : Nat) :
    ∀ ty v s, wt env ty v → rank v < f → Doomed s (enc v) → Bad (sdec f env ty s) := by
  induction f using Nat.strongRecOn with
  | ind f ih =>
  intro ty v s h hf hc
  cases f with
  | zero => exact absurd hf (Nat.not_lt_zero _)
  | succ f =>
  have hrt := sdec_evo hE (Extends.refl env)
  have st := sdec_sticky env
  cases v with
  | scalar w n =>
      rw [sdec_fixed (fixedSize_of_wt_scalar h)]
      -- reduces `(_, s').2`; left to the unifier, it first compares the pair with `sread w s`
      dsimp only [Bad]
      exact Or.inr (hc.sread (Nat.le_of_eq (length_leBytes w n)))
  | str bs =>
      obtain ⟨rfl, hl⟩ := h
      rw [sdec_str]
      dsimp only [Bad]
      rcases hc.u32 hl with h1 | ⟨hu, h2⟩
      · exact Or.inr (sread_sticky _ _ h1)
      · rw [hu]; exact Or.inr (h2.sread (Nat.le_refl _))
  | guid bs =>
      rw [sdec_fixed (n := 16) (by obtain ⟨rfl, _⟩ := h; rfl)]
      dsimp only [Bad]
      exact Or.inr (hc.sread (Nat.le_of_eq (length_guidWire bs)))
  | arr vs =>
      obtain ⟨t, rfl, hl, hw, hp⟩ := h
      have hf : 1 + rankList vs < f + 1 := hf
      rw [sdec_arr]
      refine Bad.bind ?_ fun _ _ h => Or.inr h
      rcases hc.u32 hl with h1 | ⟨hu, h2⟩
      · exact Or.inr (sdecN_sticky _ (st f t) _ _ h1)
      · rw [hu]; exact sdecN_doomed (hrt f) (ih f (Nat.lt_succ_self f)) vs t _ hw (by omega) h2
  | map kvs =>
      obtain ⟨kt, t, rfl, _, hl, hw, hd⟩ := h
      have hf : 1 + rankKVs kvs < f + 1 := hf
      rw [sdec_map]
      refine Bad.bind ?_ fun _ _ h => Or.inr h
      rcases hc.u32 hl with h1 | ⟨hu, h2⟩
      · exact Or.inr (sdecEntries_sticky kt _ _ (st f kt) (st f t) _ [] _ h1)
      · rw [hu]; exact sdecEntries_doomed (hrt f) (ih f (Nat.lt_succ_self f)) kvs kt t _ [] hw (by omega) h2
  | struct fs =>
      obtain ⟨n, tys, rfl, hn, hw⟩ := h
      obtain ⟨g, rfl, hg⟩ := fuel_record hf
      cases tys with
      | nil =>
        -- `return nil` whatever the latch says; but nothing was to be read, so the latch was set before
        cases fs with
        | nil => exact Or.inr (st _ _ s hc.nil)
        | cons _ _ => exact hw.elim
      | cons t tys =>
        rw [sdec_ref, sdecRecord_struct s hn]
        exact (sdecFields_doomed (hrt g) (ih g (by omega)) fs _ s hw hg hc).bind fun _ _ h => Or.inr h
  | msg fs =>
      obtain ⟨n, fds, rfl, hn, hw, hsz⟩ := h
      obtain ⟨g, rfl, hg⟩ := fuel_record hf
      rw [enc_msg] at hc
      rw [sdec_ref, sdecRecord_msg s hn]
      exact sdecMsgLoop_doomed (hrt g) (ih g (by omega)) (st g) fs fds _ 0 [] _ hw hg
        (hc.frame _ (by rw [length_encFields]; exact hsz) (by simp [Facts.msgLimitExtra]))
  | union d v =>
      obtain ⟨n, brs, m, rfl, hn, hd, hm, hw, hsz⟩ := h
      obtain ⟨g, rfl, hg⟩ := fuel_record hf
      rw [enc_union] at hc
      rw [sdec_ref, sdecRecord_union s hn]
      rcases (hc.frame Facts.unionLimitExtra (by rw [length_enc]; exact hsz) (by simp [Facts.unionLimitExtra])).byte
        with h3 | ⟨hb, h3⟩
      · -- whatever the discriminator byte read: with the latch set, the rest keeps it
        split
        · exact Or.inr (sleave_sticky _ _ h3)
        · exact Or.inr (sbind_sticky (st g _ _ h3) fun _ => sleave_sticky _)
      · simp only [hb, UInt8.toNat_ofNat_of_lt' hd, hm]
        exact (ih g (by omega) (.ref m) v _ hw hg h3).bind fun _ _ h => Or.inr (sleave_sticky _ _ h)

theorem strunc_decN (env : Env) (hE : EnvOk env) :
    (vs : List Val) → ∀ (t : Ty) (f : Nat) (s : RState) (k : Nat), wtList env t vs → rankList vs < f →
      Cut s (encList vs) k → Bad (sdecN (sdec f env t) vs.length s) :=
  fun vs t f s k hw hf hc => sdecN_doomed (sdec_evo hE (Extends.refl env) f)
    (strunc_dec env hE f) vs t s hw hf (Or.inr ⟨k, hc⟩)

theorem strunc_decEntries (env : Env) (hE : EnvOk env) :
    (kvs : List (Val × Val)) → ∀ (kt t : Ty) (f : Nat) (s : RState) (k : Nat) (acc : List (Val × Val)),
      wtKVs env kt t kvs → keysDistinct kt kvs → (∀ a ∈ acc, ∀ kv ∈ kvs, keyEq kt a.1 kv.1 = false) →
      rankKVs kvs < f → Cut s (encKVs kvs) k →
      Bad (sdecEntries kt (sdec f env kt) (sdec f env t) kvs.length s acc) :=
  fun kvs kt t f s k acc hw _ _ hf hc => sdecEntries_doomed (sdec_evo hE (Extends.refl env) f)
    (strunc_dec env hE f) kvs kt t s acc hw hf (Or.inr ⟨k, hc⟩)

theorem strunc_decFields (env : Env) (hE : EnvOk env) :
    (fs : List Val) → ∀ (tys : List Ty) (f : Nat) (s : RState) (k : Nat), wtStruct env tys fs → rankList fs < f →
      Cut s (encList fs) k → Bad (sdecFields (sdec f env) tys s) :=
  fun fs tys f s k hw hf hc => sdecFields_doomed (sdec_evo hE (Extends.refl env) f)
    (strunc_dec env hE f) fs tys s hw hf (Or.inr ⟨k, hc⟩)

theorem strunc_loop (env : Env) (hE : EnvOk env) :
    (fs : List (Nat × Val)) → ∀ (fds : List MsgField) (f : Nat) (s : RState) (k lo : Nat)
      (acc : List (Nat × Val)) (n : Nat), DefOk (.msg fds) → wtMsg env fds lo fs → rankFields fs < f →
      Cut s (encFields fs ++ [0]) k → Bad (sdecMsgLoop (sdec f env) fds n s acc) :=
  fun fs fds f s k lo acc n _ hw hf hc => sdecMsgLoop_doomed (sdec_evo hE (Extends.refl env) f)
    (strunc_dec env hE f) (sdec_sticky env f) fs fds s lo acc n hw hf (Or.inr ⟨k, hc⟩)

end Bebop
