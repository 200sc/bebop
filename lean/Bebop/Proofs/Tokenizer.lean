/-
  The tokenizer model advances its reader: one relation, `Fwd`, holds between the reader state before and
  after every helper loop, `findFirst` and `Next` (no new panic, errors only appended, the reader's ending and
  `keepNextToken` untouched, no input given back).  `findFirst_found` adds what `Next` needs to know about
  `findFirst`'s three answers (`FF`), `next_cases` is `Next` seen from outside: it stops and the state says why,
  or it delivers a token and has consumed input.
  The functions are walked by `fun_induction` / `fun_cases`, which leave what a ReadByte returned as a hypothesis
  `readByte t = (r, t1)`; `readByte_inv` and the lemmas after it read that hypothesis.
-/
import Bebop.Text.Tokenizer

namespace Bebop.Text

/-- What every part of the tokenizer does to the reader: no new panic, errors are only appended, the
    reader's ending and `keepNextToken` are untouched, no input is given back. -/
structure Fwd (t t' : TR) : Prop where
  pan : t.panicked = false → t'.panicked = false
  ext : t.errs <+: t'.errs
  io : t'.ioFail = t.ioFail
  len : t'.inp.length ≤ t.inp.length
  keep : t'.keep = t.keep

namespace Fwd

/-- A step that touches neither the flags nor the error list, and gives no input back. -/
theorem of_len {t t' : TR} (hl : t'.inp.length ≤ t.inp.length) (hp : t'.panicked = t.panicked := by rfl)
    (he : t'.errs = t.errs := by rfl) (hio : t'.ioFail = t.ioFail := by rfl) (hk : t'.keep = t.keep := by rfl) :
    Fwd t t' :=
  ⟨fun h => hp.trans h, he ▸ List.prefix_refl _, hio, hl, hk⟩

theorem rfl {t : TR} : Fwd t t := of_len (Nat.le_refl _)

theorem trans {a b c : TR} (h1 : Fwd a b) (h2 : Fwd b c) : Fwd a c :=
  ⟨h2.pan ∘ h1.pan, h1.ext.trans h2.ext, h2.io.trans h1.io, Nat.le_trans h2.len h1.len, h2.keep.trans h1.keep⟩

theorem addErr (t : TR) (e : TErr) : Fwd t (addErr t e) :=
  ⟨id, List.prefix_append _ _, Eq.refl _, Nat.le_refl _, Eq.refl _⟩

theorem setNext (t : TR) (tk : Token) : Fwd t (setNext t tk) := of_len (Nat.le_refl _)

theorem errs_le {t t' : TR} (h : Fwd t t') : t.errs.length ≤ t'.errs.length := h.ext.length_le

end Fwd

theorem addErr_ne (t : TR) (e : TErr) : (addErr t e).errs ≠ [] := by simp [addErr]

/-- ReadByte delivers a byte (and then UnreadByte is legal), or the input is at its end and nothing changes. -/
theorem readByte_inv {t t1 : TR} {r : Rd} (h : readByte t = (r, t1)) :
    match (generalizing := false) r with
    | .byte c => ∃ rest, t.inp = c :: rest ∧ t1 = { t with inp := rest, last := some c }
    | .eof => t1 = t ∧ t.inp = [] ∧ t.ioFail = false
    | .ioerr => t1 = t ∧ t.inp = [] ∧ t.ioFail = true := by
  unfold readByte at h
  split at h <;> cases h
  · exact ⟨_, ‹_›, rfl⟩
  · cases t.ioFail <;> exact ⟨rfl, ‹_›, rfl⟩

theorem readByte_cons {t : TR} {c : Byte} {rest : List Byte} (hi : t.inp = c :: rest) :
    readByte t = (.byte c, { t with inp := rest, last := some c }) := by
  rw [readByte, hi]

theorem Fwd.readByte {t t1 : TR} {r : Rd} (h : readByte t = (r, t1)) : Fwd t t1 := by
  cases r
  · obtain ⟨_, hi, rfl⟩ := readByte_inv h
    exact .of_len (by simp [hi])
  all_goals cases (readByte_inv h).1; exact .rfl

/-- UnreadByte right after a successful ReadByte. -/
theorem Fwd.unreadByte {t t1 : TR} {c : Byte} (h : Text.readByte t = (.byte c, t1)) : Fwd t (unreadByte t1) := by
  obtain ⟨_, hi, rfl⟩ := readByte_inv h
  exact .of_len (by simp [Text.unreadByte, hi])

theorem readByte_lt {t t1 : TR} {c : Byte} (h : readByte t = (.byte c, t1)) : t1.inp.length < t.inp.length := by
  obtain ⟨_, hi, rfl⟩ := readByte_inv h
  rw [hi]; exact Nat.lt_succ_self _

/-! ## The helper loops advance

Each is walked by its own case analysis.  A round stands in the state ReadByte left (`Fwd.readByte`) and there
stops, records an error or goes on with the loop — or it ends the loop with UnreadByte (`Fwd.unreadByte`).
(`with_reducible`, because `‹_›` otherwise unfolds `readByte` against every Boolean hypothesis of the case.) -/

theorem numberLoop_fwd (fuel : Nat) (t : TR) (conc : List Byte) (kind : TK) (a b c d : Bool) :
    Fwd t (numberLoop fuel t conc kind a b c d).2 := by
  fun_induction numberLoop fuel t conc kind a b c d
  case case1 => exact .rfl
  case case12 => exact (Fwd.unreadByte ‹_›).trans (.setNext ..)   -- the byte after the number
  all_goals with_reducible refine (Fwd.readByte ‹_›).trans ?_
  all_goals first | assumption | exact .addErr .. | exact .rfl

theorem skipWs_fwd (fuel : Nat) (t : TR) : Fwd t (skipWs fuel t) := by
  fun_induction skipWs fuel t
  case case1 => exact .rfl
  case case3 => exact .unreadByte ‹_›   -- the byte after the blanks
  all_goals with_reducible refine (Fwd.readByte ‹_›).trans ?_
  all_goals first | assumption | exact .rfl

theorem blockLoop_fwd (fuel : Nat) (t : TR) (conc : List Byte) (lb : Byte) : Fwd t (blockLoop fuel t conc lb).2 := by
  fun_induction blockLoop fuel t conc lb
  case case1 => exact .rfl
  all_goals with_reducible refine (Fwd.readByte ‹_›).trans ?_
  all_goals first | assumption | exact .addErr .. | exact skipWs_fwd ..

theorem stringLoop_fwd (fuel : Nat) (t : TR) (conc : List Byte) (esc : Bool) :
    Fwd t (stringLoop fuel t conc esc).2 := by
  fun_induction stringLoop fuel t conc esc
  case case1 => exact .rfl
  all_goals with_reducible refine (Fwd.readByte ‹_›).trans ?_
  all_goals first | assumption | exact .addErr .. | exact .rfl

theorem lineComment_fwd (t : TR) (conc : List Byte) : Fwd t (lineCommentToken t conc).2 := by
  fun_cases lineCommentToken t conc
  · -- what follows the line is a suffix of the input
    rename_i c rest h
    have : (c :: rest).length ≤ t.inp.length := h ▸ (List.drop_suffix _ t.inp).length_le
    exact .of_len (Nat.le_of_succ_le this)
  · exact (Fwd.of_len (Nat.zero_le _)).trans (.addErr ..)
  · exact .of_len (Nat.zero_le _)

/-- nextIdent seen from outside: it delivers a token, or stops with the reader's error recorded or where the
    model declines. -/
theorem identLoop_cases {P : Bool × TR → Prop} (fuel : Nat) (t : TR) (conc : List Byte)
    (stop : ∀ t1, Fwd t t1 → t1.errs ≠ [] ∨ t1.nonAscii = true → P (false, t1)) (tok : ∀ t1, Fwd t t1 → P (true, t1)) :
    P (identLoop fuel t conc) := by
  fun_induction identLoop fuel t conc
  · exact tok _ (.setNext ..)
  · exact stop _ (.addErr ..) (.inl (addErr_ne _ _))
  · exact tok _ (.setNext ..)
  · exact stop _ (.of_len (Nat.le_refl _)) (.inr rfl)
  · rename_i hi _ _ ih
    have read := Fwd.readByte (readByte_cons hi)
    exact ih (fun t1 h => stop t1 (read.trans h)) fun t1 h => tok t1 (read.trans h)
  · exact tok _ (.of_len (Nat.le_refl _))

/-! ## The token tree -/

/-- The result `r` of a token-tree node entered in state `t`: the reader advanced, and either a token was
    built or "no token" is reported after recording an error.  A clean end of input is never reported here
    (only the root of the tree does that). -/
def GoodR (t : TR) (r : Token × FR × TR) : Prop :=
  Fwd t r.2.2 ∧ (r.2.1 = .tok ∨ (r.2.1 = .no ∧ t.errs.length < r.2.2.errs.length))

def GoodK (k : TR → List Byte → Token × FR × TR) : Prop := ∀ t conc, GoodR t (k t conc)

theorem GoodR.err (t : TR) (e : TErr) : GoodR t ({}, .no, addErr t e) :=
  ⟨.addErr .., .inr ⟨rfl, by simp [addErr]⟩⟩

/-- Seen from an earlier state the result is as good. -/
theorem GoodR.of_fwd {t t1 : TR} (h : Fwd t t1) {r : Token × FR × TR} (hr : GoodR t1 r) : GoodR t r :=
  ⟨h.trans hr.1, hr.2.imp_right (.imp_right (Nat.lt_of_le_of_lt h.errs_le))⟩

theorem goodK_simple (kd : TK) : GoodK (fun t conc => simple kd conc t) := fun _ _ => ⟨.rfl, .inl rfl⟩

theorem goodK_wrap {f : TR → List Byte → Token × TR} (hf : ∀ t conc, Fwd t (f t conc).2) : GoodK (wrap f) :=
  fun t conc => ⟨hf t conc, .inl rfl⟩

theorem expectOne_good {opts : List (Byte × (TR → List Byte → Token × FR × TR))}
    (hne : opts ≠ []) (hk : ∀ o ∈ opts, GoodK o.2) : GoodK (fun t conc => expectOne t conc opts) := by
  intro t conc
  show GoodR t (expectOne t conc opts)
  fun_cases expectOne t conc opts
  all_goals with_reducible refine .of_fwd (.readByte ‹_›) ?_
  · exact .err ..
  · exact .err ..
  · exact hk _ (List.mem_of_find?_eq_some ‹_›) ..
  · exact .of_fwd (.addErr ..) (hk _ (List.mem_cons_self ..) ..)
  · exact absurd rfl hne

/-! ## findFirst -/

/-- The result of findFirst: errors are only appended; a clean end of input (`eof`) adds none and leaves
    nothing unread; "no token here and nothing new" means a byte was just read (so UnreadByte is legal). -/
structure FF (t : TR) (r : Token × FR × TR) : Prop where
  pan : t.panicked = false → r.2.2.panicked = false
  io : r.2.2.ioFail = t.ioFail
  ext : ∃ new, r.2.2.errs = t.errs ++ new
  eof : r.2.1 = .eof → r.2.2.inp = [] ∧ r.2.2.ioFail = false ∧ r.2.2.errs = t.errs
  unread : r.2.1 = .no → r.2.2.errs.length = t.errs.length → r.2.2.last.isSome = true

/-- All that `Next` uses of `findFirst`: `FF`, and the reader advanced, by at least one byte if it had one. -/
structure Found (t : TR) (r : Token × FR × TR) : Prop where
  ff : FF t r
  fwd : Fwd t r.2.2
  lt : t.inp ≠ [] → r.2.2.inp.length < t.inp.length

theorem GoodR.ff {t : TR} {r : Token × FR × TR} (h : GoodR t r) : FF t r where
  pan := h.1.pan
  io := h.1.io
  ext := h.1.ext.imp fun _ => Eq.symm
  eof h1 := h.2.elim (nomatch h1.symm.trans ·) (nomatch h1.symm.trans ·.1)
  unread h1 h2 := h.2.elim (nomatch h1.symm.trans ·) (absurd h2 <| Nat.ne_of_gt ·.2)

/-- Whatever holds of the result seen from the state after the first ReadByte holds seen from before it. -/
theorem Found.of_read {t t1 : TR} {c : Byte} (h : readByte t = (.byte c, t1)) {r : Token × FR × TR}
    (hf : FF t1 r) (ha : Fwd t1 r.2.2) : Found t r := by
  have lt := Nat.lt_of_le_of_lt ha.len (readByte_lt h)
  obtain ⟨_, _, rfl⟩ := readByte_inv h
  exact ⟨⟨hf.pan, hf.io, hf.ext, hf.eof, hf.unread⟩, (Fwd.readByte h).trans ha, fun _ => lt⟩

theorem GoodR.found {t t1 : TR} {c : Byte} (h : readByte t = (.byte c, t1)) {r : Token × FR × TR}
    (hr : GoodR t1 r) : Found t r := .of_read h hr.ff hr.1

theorem findFirst_found (fuel : Nat) (t : TR) : t.inp.length < fuel → Found t (findFirst fuel t) := by
  have single : ∀ {c0 : Byte} {k}, GoodK k → GoodK (fun t conc => expectOne t conc [(c0, k)]) :=
    fun hk => expectOne_good (by simp) (List.forall_mem_singleton.2 hk)
  fun_induction findFirst fuel t <;> intro hfuel
  · exact absurd hfuel (Nat.not_lt_zero _)
  · obtain ⟨rfl, hnil, hio⟩ := readByte_inv ‹_›
    exact ⟨⟨id, rfl, ⟨[], by simp⟩, fun _ => ⟨hnil, hio, rfl⟩, nofun⟩, .rfl, (absurd hnil ·)⟩
  · obtain ⟨rfl, hnil, -⟩ := readByte_inv ‹_›
    exact ⟨(GoodR.err ..).ff, .addErr .., (absurd hnil ·)⟩
  -- a blank is skipped
  · rename_i ih
    have ih := ih (Nat.lt_of_lt_of_le (readByte_lt ‹_›) (Nat.le_of_lt_succ hfuel))
    exact .of_read ‹_› ih.ff ih.fwd
  -- no byte-driven token starts with this byte, and UnreadByte is legal
  case case17 =>
    obtain ⟨_, _, rfl⟩ := readByte_inv ‹_›
    exact .of_read ‹_› ⟨id, rfl, ⟨[], by simp⟩, nofun, fun _ _ => rfl⟩ .rfl
  -- every other byte enters the token tree: a one-byte terminal, '"', a digit, '>', '<', '/'
  all_goals with_reducible refine GoodR.found ‹_› ?_
  · exact goodK_simple ..
  · exact goodK_wrap (fun _ _ => stringLoop_fwd ..) ..
  · exact goodK_wrap (fun _ _ => numberLoop_fwd ..) ..
  · exact single (goodK_simple _) ..
  · exact single (goodK_simple _) ..
  · refine expectOne_good (by simp) (List.forall_mem_cons.2 ⟨?_, List.forall_mem_singleton.2 ?_⟩) ..
    · exact goodK_wrap (f := blockCommentToken) fun _ _ => blockLoop_fwd ..
    · exact goodK_wrap (f := lineCommentToken) lineComment_fwd
  -- '-' reads one more byte: the end of the input, a digit, 'i', '>', anything else
  all_goals with_reducible refine .of_fwd (.readByte ‹_›) ?_
  · exact .err ..
  · exact .err ..
  · exact goodK_wrap (fun _ _ => numberLoop_fwd ..) ..
  · exact single (single (goodK_simple _)) ..
  · exact goodK_simple ..
  · exact .of_fwd (.addErr ..) (goodK_simple ..)

theorem findFirst_ff (fuel : Nat) (t : TR) (h : t.inp.length < fuel) : FF t (findFirst fuel t) :=
  (findFirst_found fuel t h).ff

/-! ## Next -/

theorem next_of_keep (t : TR) (h : t.keep = true) : next t = (true, { t with keep := false }) := by
  unfold next; simp [h]

/-- At the end of the input `Next` returns false; the reader's error, if it ends with one, is recorded. -/
theorem next_nil (t : TR) (hk : t.keep = false) (hnil : t.inp = []) :
    next t = if t.ioFail then (false, addErr t .io) else (false, t) := by
  unfold next
  cases hio : t.ioFail <;> simp [hk, hnil, findFirst, readByte, hio, addErr]

/-- `Next` with nothing kept, seen from outside.  It answers false in a state `t1` that gives the reason — the
    clean end of the input, an error recorded, the model declined (`nonAscii`), or the reader had panicked — and
    only in the last two cases without having consumed input that was there; or it delivers a token and has
    consumed input.  Un-reading the byte `findFirst` stopped on is legal (`FF.unread`) and ReadRune takes that
    byte again, so the rune-driven part of `Next` starts where `findFirst` ended. -/
theorem next_cases {t : TR} (hk : t.keep = false) {P : Bool × TR → Prop}
    (stop : ∀ t1, Fwd t t1 →
      (t.inp ≠ [] → t1.inp.length < t.inp.length ∨ t1.nonAscii = true ∨ t1.panicked = true) →
      (t1.inp = [] ∧ t1.ioFail = false) ∨ t1.errs ≠ [] ∨ t1.nonAscii = true ∨ t1.panicked = true → P (false, t1))
    (tok : ∀ t1, Fwd t t1 → t1.inp.length < t.inp.length → P (true, t1)) : P (next t) := by
  by_cases hne : t.inp = []
  · rw [next_nil t hk hne]
    exact iteInduction (fun _ => stop _ (.addErr ..) (absurd hne) (.inr (.inl (addErr_ne _ _)))) fun hio =>
      stop _ .rfl (absurd hne) (.inl ⟨hne, by simpa using hio⟩)
  unfold next
  rw [if_neg (by simp [hk])]
  obtain ⟨ff, fwd, lt⟩ := findFirst_found (t.inp.length + 1) t (Nat.lt_succ_self _)
  generalize findFirst (t.inp.length + 1) t = x at *
  obtain ⟨tk, r, t1⟩ := x
  have lt := lt hne
  have stop1 := fun h => stop t1 fwd (fun _ => .inl lt) h
  refine iteInduction (fun h => stop1 (.inl ⟨(ff.eof (by simpa using h)).1, (ff.eof (by simpa using h)).2.1⟩))
    fun h1 => iteInduction (fun h => stop1 (.inr (.inl fun he => by simp [he] at h))) fun _ =>
    iteInduction (fun h => stop1 (.inr (.inl fun he => by simp [he] at h))) fun h3 =>
    iteInduction (fun _ => tok _ (fwd.trans (.setNext ..)) lt) fun h4 => ?_
  -- nothing found and nothing new recorded: `findFirst` stopped right after reading a byte
  have hr : r = .no := by
    cases r
    · exact (h4 rfl).elim
    · rfl
    · exact (h1 rfl).elim
  have hlen : t1.errs.length = t.errs.length :=
    Nat.le_antisymm (Nat.le_of_not_lt fun h => h3 (by
      simp [hr, h, List.ne_nil_of_length_pos (Nat.zero_lt_of_lt h)])) fwd.errs_le
  obtain ⟨c, hc⟩ := Option.isSome_iff_exists.1 (ff.unread hr hlen)
  have hun : unreadByte t1 = { t1 with inp := c :: t1.inp, last := none } := by
    unfold unreadByte; rw [show t1.last = some c from hc]
  rw [hun]
  dsimp only
  -- ReadRune, then nextIdent (`identLoop`) on a letter
  have unread : Fwd t { t1 with inp := c :: t1.inp, last := none } := ⟨fwd.pan, fwd.ext, fwd.io, lt, fwd.keep⟩
  have rune : Fwd t { t1 with last := some c } := ⟨fwd.pan, fwd.ext, fwd.io, fwd.len, fwd.keep⟩
  exact iteInduction (fun hp => stop _ unread (fun _ => .inr (.inr hp)) (.inr (.inr (.inr hp)))) fun _ =>
    iteInduction (fun _ => stop _ (unread.trans (.of_len (Nat.le_refl _))) (fun _ => .inr (.inl rfl))
      (.inr (.inr (.inl rfl)))) fun _ =>
    iteInduction (fun _ => identLoop_cases _ _ _
      (fun t2 h e => stop t2 (rune.trans h) (fun _ => .inl (Nat.lt_of_le_of_lt h.len lt)) (.inr (e.imp_right .inl)))
      fun t2 h => tok t2 (rune.trans h) (Nat.lt_of_le_of_lt h.len lt)) fun _ =>
    stop _ (rune.trans (.addErr ..)) (fun _ => .inl lt) (.inr (.inl (addErr_ne _ _)))

/-- `Next` clears `keepNextToken` and advances the reader. -/
theorem next_fwd (t : TR) : Fwd { t with keep := false } (next t).2 := by
  cases hk : t.keep with
  | true => rw [next_of_keep t hk]; exact .rfl
  | false =>
    suffices h : Fwd t (next t).2 from ⟨h.pan, h.ext, h.io, h.len, h.keep.trans hk⟩
    exact next_cases (P := fun x => Fwd t x.2) hk (fun _ h _ _ => h) fun _ h _ => h

/-- With input left and nothing kept, `Next` consumes at least one byte, unless the model declines
    (`nonAscii`) or the reader had panicked. -/
theorem next_progress {t : TR} (hk : t.keep = false) (hne : t.inp ≠ []) :
    (next t).2.inp.length < t.inp.length ∨ (next t).2.nonAscii = true ∨ (next t).2.panicked = true :=
  next_cases (P := fun x => x.2.inp.length < t.inp.length ∨ x.2.nonAscii = true ∨ x.2.panicked = true) hk
    (fun _ _ h _ => h hne) fun _ _ h => .inl h

/-- `Next` does not answer false without a reason: it stands at the clean end of the input (everything read,
    the reader ended with EOF), or an error was recorded, the model declined, or the reader panicked. -/
theorem next_stopped (t : TR) (hf : (next t).1 = false) : ((next t).2.inp = [] ∧ (next t).2.ioFail = false) ∨
    (next t).2.errs ≠ [] ∨ (next t).2.nonAscii = true ∨ (next t).2.panicked = true := by
  cases hk : t.keep with
  | true => rw [next_of_keep t hk] at hf; cases hf
  | false =>
    exact next_cases (P := fun x => x.1 = false → (x.2.inp = [] ∧ x.2.ioFail = false) ∨ x.2.errs ≠ [] ∨
      x.2.nonAscii = true ∨ x.2.panicked = true) hk (fun _ _ _ h _ => h) (fun _ _ _ => nofun) hf

/-- `Next` can only return false with an empty error list at the clean end of the input: everything has
    been read and the reader ended with EOF, not with an I/O error. -/
theorem next_false_clean (t : TR) (hf : (next t).1 = false)
    (he : (next t).2.errs = []) (hn : (next t).2.nonAscii = false) (hnp : (next t).2.panicked = false) :
    (next t).2.inp = [] ∧ (next t).2.ioFail = false := by
  rcases next_stopped t hf with h | h | h | h
  · exact h
  · exact absurd he h
  · rw [hn] at h; cases h
  · rw [hnp] at h; cases h

end Bebop.Text
