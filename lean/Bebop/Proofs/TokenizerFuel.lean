/-
  Tokenizer fuel irrelevance: the fuel argument of the tokenizer model's helper loops (`numberLoop`, `skipWs`,
  `blockLoop`, `stringLoop`, `findFirst`, `identLoop`, and `allTokens`) is only a termination device.  Every
  iteration that recurses has consumed one byte (resp., for `allTokens`, has lowered the measure `mu`), so with
  any fuel above the input length (resp. above `mu`) the `fuel = 0` branch is never reached: two such fuels
  give the same result.  The callers pass `|inp| + 1`, hence the value returned in the `0` branches is
  irrelevant.
-/
import Bebop.Proofs.TokenizerProgress

namespace Bebop.Text

/-- `two_fuels` for one loop and equality of its results. -/
theorem fuel_irrelevant {σ ρ} (m : σ → Nat) {L : Nat → σ → ρ}
    (step : ∀ f f' s, (∀ s2, m s2 < m s → L f s2 = L f' s2) → L (f+1) s = L (f'+1) s) (f f' : Nat) (s : σ) :
    m s < f → m s < f' → L f s = L f' s :=
  two_fuels m (fun _ => True) (fun _ => Eq) (fun f f' s _ _ _ again => step f f' s fun s2 => again s2 trivial) f f' s
    trivial

/-! ## The byte-driven loops: each as a function of its other arguments

A round that goes on does so in the state a successful ReadByte left, one byte shorter (`readByte_lt`). -/

theorem numberLoop_fuel_stable : ∀ (f1 f2 : Nat) (t : TR), t.inp.length < f1 → t.inp.length < f2 →
    numberLoop f1 t = numberLoop f2 t :=
  fuel_irrelevant (fun t : TR => t.inp.length) fun f f' t again => by
    funext conc kind second hex decimal invalidLast
    rw [numberLoop, numberLoop]
    rcases h : readByte t with ⟨c | _ | _, t1⟩ <;> dsimp only
    rw [again _ (readByte_lt h)]

theorem skipWs_fuel_stable : ∀ (f1 f2 : Nat) (t : TR), t.inp.length < f1 → t.inp.length < f2 →
    skipWs f1 t = skipWs f2 t :=
  fuel_irrelevant (fun t : TR => t.inp.length) fun f f' t again => by
    rw [skipWs, skipWs]
    rcases h : readByte t with ⟨c | _ | _, t1⟩ <;> dsimp only
    rw [again _ (readByte_lt h)]

theorem blockLoop_fuel_stable : ∀ (f1 f2 : Nat) (t : TR), t.inp.length < f1 → t.inp.length < f2 →
    blockLoop f1 t = blockLoop f2 t :=
  fuel_irrelevant (fun t : TR => t.inp.length) fun f f' t again => by
    funext conc lastB
    rw [blockLoop, blockLoop]
    rcases h : readByte t with ⟨c | _ | _, t1⟩ <;> dsimp only
    rw [again _ (readByte_lt h)]

theorem stringLoop_fuel_stable : ∀ (f1 f2 : Nat) (t : TR), t.inp.length < f1 → t.inp.length < f2 →
    stringLoop f1 t = stringLoop f2 t :=
  fuel_irrelevant (fun t : TR => t.inp.length) fun f f' t again => by
    funext conc escaping
    rw [stringLoop, stringLoop]
    rcases h : readByte t with ⟨c | _ | _, t1⟩ <;> dsimp only
    rw [again _ (readByte_lt h)]

/-- `findFirst` recurses only where it skips a blank; every other branch does not mention the fuel. -/
theorem findFirst_fuel_stable : ∀ (f1 f2 : Nat) (t : TR), t.inp.length < f1 → t.inp.length < f2 →
    findFirst f1 t = findFirst f2 t :=
  fuel_irrelevant (fun t : TR => t.inp.length) fun f f' t again => by
    rw [findFirst, findFirst]
    rcases h : readByte t with ⟨c | _ | _, t1⟩ <;> dsimp only
    rw [again _ (readByte_lt h)]

theorem identLoop_fuel_stable : ∀ (f1 f2 : Nat) (t : TR), t.inp.length < f1 → t.inp.length < f2 →
    identLoop f1 t = identLoop f2 t :=
  fuel_irrelevant (fun t : TR => t.inp.length) fun f f' t again => by
    funext conc
    rw [identLoop, identLoop]
    rcases hi : t.inp with _ | ⟨c, rest⟩ <;> dsimp only
    rw [again _ (by rw [hi]; exact Nat.lt_succ_self _)]

/-! ## The token loop: fuel over the measure `mu` -/

theorem allTokens_fuel_stable : ∀ (f1 f2 : Nat) (t : TR), mu t < f1 → mu t < f2 → allTokens f1 t = allTokens f2 t :=
  fuel_irrelevant mu fun f f' t again => by
    funext acc
    simp only [allTokens]
    have hm := (next_measure t).2
    obtain ⟨r, t1, hn⟩ : ∃ r t1, next t = (r, t1) := ⟨_, _, rfl⟩
    rw [hn] at hm ⊢
    cases r with
    | false => rfl
    | true => exact congrFun (again t1 (hm rfl)) _

/-! ## Call sites: the fuel the callers pass is enough, so any larger fuel gives the same result -/

/-- The call of skipFollowingWhitespace at the end of a block comment (`blockLoop` passes `|inp| + 1`). -/
theorem skipWs_call_fuel (t : TR) (f : Nat) (h : t.inp.length < f) : skipWs f t = skipWs (t.inp.length + 1) t :=
  skipWs_fuel_stable _ _ t h (Nat.lt_succ_self _)

/-- The two loops `next` calls, on the states and with the fuels it passes them (`|inp| + 1` to `findFirst`,
    `|rest| + 1` to `identLoop`). -/
theorem next_loops_fuel (t : TR) :
    (∀ f, t.inp.length + 1 ≤ f → findFirst f t = findFirst (t.inp.length + 1) t) ∧
    (∀ f (t2 : TR) (c : Byte) (rest conc : List Byte), rest.length + 1 ≤ f →
      identLoop f { t2 with inp := rest, last := some c } conc =
      identLoop (rest.length + 1) { t2 with inp := rest, last := some c } conc) :=
  ⟨fun _ h => findFirst_fuel_stable _ _ t h (Nat.lt_succ_self _),
   fun _ _ _ _ conc h => congrFun (identLoop_fuel_stable _ _ _ h (Nat.lt_succ_self _)) conc⟩

/-- `next` with `extra` more fuel in both of its loops (`findFirst` and `identLoop`). -/
def nextWithFuel (extra : Nat) (t : TR) : Bool × TR :=
  if t.keep then (true, { t with keep := false })
  else
    let errCount := t.errs.length
    let (tk, r, t1) := findFirst (t.inp.length + 1 + extra) t
    if r == .eof then (false, t1)
    else if t1.errs.getLast? == some .ueof then (false, t1)
    else if !t1.errs.isEmpty && r != .tok && t1.errs.length > errCount then (false, t1)
    else if r == .tok then (true, setNext t1 tk)
    else
        let t2 := unreadByte t1
        if t2.panicked then (false, t2) else
        match t2.inp with
        | [] => (false, addErr t2 (if t2.ioFail then .io else .ueof))
        | c :: rest =>
          if c.toNat ≥ 0x80 then (false, { t2 with nonAscii := true })
          else if isAsciiLetter c then
            identLoop (rest.length + 1 + extra) { t2 with inp := rest, last := some c } [c]
          else (false, addErr { t2 with inp := rest, last := some c } .other)

/-- With no extra fuel this is `next` itself, by definition. -/
theorem nextWithFuel_zero (t : TR) : nextWithFuel 0 t = next t := rfl

/-- `Next` does not depend on the fuel of its loops: with the fuels it passes the fuel-0 branches are not reached,
    and any larger fuels give the same answer and the same reader state. -/
theorem next_fuel_irrelevant (extra : Nat) (t : TR) : nextWithFuel extra t = next t := by
  unfold nextWithFuel next
  rw [(next_loops_fuel t).1 _ (Nat.le_add_right _ extra)]
  simp only [fun t2 c rest conc => (next_loops_fuel t).2 _ t2 c rest conc (Nat.le_add_right _ extra)]
  rfl

end Bebop.Text
