/-
  Tokenizer progress: `Next` never gives input back, never leaves `keepNextToken` set, and every call
  that returns true either clears `keepNextToken` or consumes at least one byte.  The measure is
  `mu t = 2 * |remaining input| + (1 if keepNextToken)`: `UnNext` raises it by one, a successful `Next`
  lowers it by one (keep) or by at least two (bytes).
  At the end: a blank (`Facts.tokenTreeSkips`) in front of the input changes nothing about what `Next` answers
  (`next_skips_blank`), the step of layout independence.
-/
import Bebop.Proofs.Tokenizer

namespace Bebop.Text

/-- The one induction behind every "the fuel is irrelevant" statement of the text model.  `L f` and `L' f'` are a
    loop run with two fuels, `m` a measure of its state that goes down from round to round, `P` what is known of
    the state on entry, `R s` what is claimed of the two results.  Once both fuels are above `m`, a round (`step`)
    may take the claim for all later rounds for granted. -/
theorem two_fuels {σ ρ ρ'} (m : σ → Nat) (P : σ → Prop) (R : σ → ρ → ρ' → Prop) {L : Nat → σ → ρ} {L' : Nat → σ → ρ'}
    (step : ∀ f f' s, P s → m s < f + 1 → m s < f' + 1 →
      (∀ s2, P s2 → m s2 < m s → R s2 (L f s2) (L' f' s2)) → R s (L (f+1) s) (L' (f'+1) s)) :
    ∀ f f' s, P s → m s < f → m s < f' → R s (L f s) (L' f' s) := by
  intro f
  induction f with
  | zero => exact fun _ _ _ h _ => absurd h (Nat.not_lt_zero _)
  | succ f ih =>
    intro f' s hP h h'
    cases f' with
    | zero => exact absurd h' (Nat.not_lt_zero _)
    | succ f' =>
      exact step f f' s hP h h' fun s2 hP2 h2 =>
        ih f' s2 hP2 (Nat.lt_of_lt_of_le h2 (Nat.le_of_lt_succ h)) (Nat.lt_of_lt_of_le h2 (Nat.le_of_lt_succ h'))

/-- The tokenizer's progress measure. -/
def mu (t : TR) : Nat := 2 * t.inp.length + (if t.keep then 1 else 0)

theorem mu_keep_false {t : TR} (h : t.keep = false) : mu t = 2 * t.inp.length := by simp [mu, h]
theorem mu_keep_true {t : TR} (h : t.keep = true) : mu t = 2 * t.inp.length + 1 := by simp [mu, h]
theorem mu_unNext (t : TR) : mu { t with keep := true } = 2 * t.inp.length + 1 := mu_keep_true rfl

theorem mu_le (t : TR) : mu t ≤ 2 * t.inp.length + 1 := by
  cases h : t.keep
  · rw [mu_keep_false h]; exact Nat.le_succ _
  · rw [mu_keep_true h]; exact Nat.le_refl _

theorem le_mu (t : TR) : 2 * t.inp.length ≤ mu t := Nat.le_add_right _ _

theorem next_keep (t : TR) : (next t).2.keep = false := (next_fwd t).keep

theorem next_len_le (t : TR) : (next t).2.inp.length ≤ t.inp.length := (next_fwd t).len

/-- At a clean end of the input (EOF, nothing kept) `Next` returns false and changes nothing at all. -/
theorem next_at_eof (t : TR) (hk : t.keep = false) (hnil : t.inp = []) (hio : t.ioFail = false) :
    next t = (false, t) := by
  rw [next_nil t hk hnil, if_neg (by simp [hio])]

/-- A call that returns true and did not just clear `keepNextToken` consumed at least one byte. -/
theorem next_true_lt (t : TR) (ht : (next t).1 = true) (hk : t.keep = false) :
    (next t).2.inp.length < t.inp.length :=
  next_cases (P := fun x => x.1 = true → x.2.inp.length < t.inp.length) hk (fun _ _ _ _ => nofun)
    (fun _ _ h _ => h) ht

/-- Tokenizer progress: `Next` never raises the measure, and lowers it whenever it returns true. -/
theorem next_measure (t : TR) : mu (next t).2 ≤ mu t ∧ ((next t).1 = true → mu (next t).2 < mu t) := by
  have hle := Nat.mul_le_mul_left 2 (next_len_le t)
  rw [mu_keep_false (next_keep t)]
  cases hk : t.keep with
  | true => rw [mu_keep_true hk]; exact ⟨Nat.le_succ_of_le hle, fun _ => Nat.lt_succ_of_le hle⟩
  | false =>
    rw [mu_keep_false hk]
    exact ⟨hle, fun ht => (Nat.mul_lt_mul_left (by decide)).2 (next_true_lt t ht hk)⟩

/-- `UnNext` right after a `Next` that returned true does not bring the measure back up to where it was
    before that `Next` (so a "peek" cannot loop), unless that `Next` itself only cleared `keepNextToken`. -/
theorem unNext_after_next (t : TR) (hk : t.keep = false) (ht : (next t).1 = true) :
    mu { (next t).2 with keep := true } < mu t := by
  rw [mu_unNext, mu_keep_false hk]
  -- `2 * a + 1 < 2 * b` unfolds to `2 * (a + 1) ≤ 2 * b`
  exact Nat.mul_le_mul_left 2 (next_true_lt t ht hk)

theorem unNext_next_le (t : TR) : mu { (next t).2 with keep := true } ≤ mu t + 1 := by
  rw [mu_unNext]
  exact Nat.succ_le_succ (Nat.le_trans (Nat.mul_le_mul_left 2 (next_len_le t)) (le_mu t))

/-- `Next` consumes nothing and nothing was kept only at the end of the input, or where the model declines. -/
theorem stall_cases (t : TR) (hp : t.panicked = false) (hk : t.keep = false)
    (hs : (next t).2.inp.length = t.inp.length) : t.inp = [] ∨ (next t).2.nonAscii = true := by
  by_cases hnil : t.inp = []
  · exact Or.inl hnil
  · rcases next_progress hk hnil with h | h | h
    · exact absurd hs (Nat.ne_of_lt h)
    · exact Or.inr h
    · rw [(next_fwd t).pan hp] at h; cases h

/-! ## Blanks are skipped -/

theorem findFirst_blank (fuel : Nat) (t : TR) (c : Byte) (rest : List Byte) (hi : t.inp = c :: rest)
    (hc : Facts.tokenTreeSkips.contains c.toNat = true) :
    findFirst (fuel+1) t = findFirst fuel { t with inp := rest, last := some c } := by
  rw [findFirst, readByte_cons hi]
  exact if_pos hc

/-- With input left, `findFirst` does not depend on bufio's `lastByte`. -/
theorem findFirst_last (fuel : Nat) (t : TR) (l : Option Byte) (d : Byte) (rest : List Byte) (hi : t.inp = d :: rest) :
    findFirst (fuel+1) { t with last := l } = findFirst (fuel+1) t := by
  rw [findFirst, findFirst, readByte_cons hi, readByte_cons (t := { t with last := l }) hi]

/-- With nothing kept, `Next` looks at its state only through the error count and what `findFirst` answers. -/
theorem next_congr {t t' : TR} (hk : t.keep = false) (hk' : t'.keep = false) (he : t'.errs.length = t.errs.length)
    (hf : findFirst (t.inp.length + 1) t = findFirst (t'.inp.length + 1) t') : next t = next t' := by
  unfold next
  rw [if_neg (by simp [hk]), if_neg (by simp [hk']), hf, he]

/-- A blank in front of the input is skipped. -/
theorem next_blank {t : TR} {c : Byte} {rest : List Byte} (hk : t.keep = false) (hi : t.inp = c :: rest)
    (hc : Facts.tokenTreeSkips.contains c.toNat = true) : next t = next { t with inp := rest, last := some c } :=
  next_congr hk hk rfl (by rw [hi]; exact findFirst_blank _ t c rest hi hc)

/-- With input left, `Next` does not depend on bufio's `lastByte`. -/
theorem next_last {t : TR} {d : Byte} {rest : List Byte} (l : Option Byte) (hk : t.keep = false)
    (hi : t.inp = d :: rest) : next { t with last := l } = next t :=
  next_congr hk hk rfl (findFirst_last _ t l d rest hi)

/-- A space, tab or carriage return (`Facts.tokenTreeSkips`) in front of the input changes nothing about what
    `Next` answers: the same Boolean, the same token, the same remaining input, the same errors — every field
    of the model's reader state except bufio's `lastByte`, which differs only when the blank was the whole
    input. (Positions are not part of the model.) -/
theorem next_skips_blank (c : Byte) (hc : Facts.tokenTreeSkips.contains c.toNat = true) (inp : List Byte) (io : Bool) :
    (next (mkTR (c :: inp) io)).1 = (next (mkTR inp io)).1 ∧
    (next (mkTR (c :: inp) io)).2.nextTok = (next (mkTR inp io)).2.nextTok ∧
    (next (mkTR (c :: inp) io)).2.inp = (next (mkTR inp io)).2.inp ∧
    (next (mkTR (c :: inp) io)).2.errs = (next (mkTR inp io)).2.errs ∧
    (next (mkTR (c :: inp) io)).2.lastTok = (next (mkTR inp io)).2.lastTok ∧
    (next (mkTR (c :: inp) io)).2.keep = (next (mkTR inp io)).2.keep ∧
    (next (mkTR (c :: inp) io)).2.panicked = (next (mkTR inp io)).2.panicked ∧
    (next (mkTR (c :: inp) io)).2.nonAscii = (next (mkTR inp io)).2.nonAscii ∧
    (next (mkTR (c :: inp) io)).2.ioFail = (next (mkTR inp io)).2.ioFail ∧
    (inp ≠ [] → next (mkTR (c :: inp) io) = next (mkTR inp io)) := by
  -- after the blank the reader differs from `mkTR inp io` in `lastByte` alone
  have h : next (mkTR (c :: inp) io) = next { mkTR inp io with last := some c } := next_blank rfl rfl hc
  rw [h]
  cases inp with
  | cons d rest =>
    rw [next_last (some c) rfl rfl]
    exact ⟨rfl, rfl, rfl, rfl, rfl, rfl, rfl, rfl, rfl, fun _ => rfl⟩
  | nil =>
    rw [next_nil _ rfl rfl, next_nil _ rfl rfl]
    cases io <;> exact ⟨rfl, rfl, rfl, rfl, rfl, rfl, rfl, rfl, rfl, nofun⟩

/-- The skip set as bytes: space, tab, carriage return. -/
theorem blank_contains (c : Byte) (h : c = 32 ∨ c = 9 ∨ c = 13) : Facts.tokenTreeSkips.contains c.toNat = true := by
  rcases h with rfl | rfl | rfl <;> rfl

end Bebop.Text
