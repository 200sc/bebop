/-
  The checked byte-slice decoders return an error on every strict prefix of a valid encoding: they cannot
  succeed or run out of fuel (the answer would be the answer on the whole encoding, which leaves nothing
  unread, the round trip), and they never panic (`Safe`).  `err_of_prefix` is that argument; `unmarshal_prefix_err`
  applies it to UnmarshalBebop on a top-level record, which is `decRecord` without the cursor (`unmarshal_eq`).
-/
import Bebop.Proofs.NoPanic
import Bebop.Proofs.RoundTrip

namespace Bebop

/-- `r'` is a value, on the longer buffer; had `r` been one too it would be the same, which `hno` excludes
    (`r` has not read enough): so `r` ran off the end. -/
theorem err_of_prefix {α} {Q : α × List Byte → Prop} {ext : List Byte} {r r' : Res (α × List Byte)} (h : Safe ext Q r r')
    {q : α × List Byte} (hfull : r' = .ok q) (hno : ∀ p, Q p → q = (p.1, p.2 ++ ext) → False) : r = .err := by
  subst hfull
  cases r with
  | ok p => exact (hno p h.1 (Res.ok.inj h.2)).elim
  | fuel => cases h
  | err => rfl
  | panic => exact h.elim

/-- Nothing is left unread behind the whole encoding, so the cut-off part cannot be. -/
theorem nil_ne_append_drop {α} {full r : List Byte} {k : Nat} (hk : k < full.length) {a b : α}
    (h : (a, ([] : List Byte)) = (b, r ++ full.drop k)) : False := by
  exact Nat.not_le_of_lt hk (List.drop_eq_nil_iff.mp (List.append_eq_nil_iff.mp (Prod.mk.inj h).2.symm).2)

theorem trunc_decN (env : Env) (hE : EnvOk env) :
    (vs : List Val) → ∀ (t : Ty) (f k : Nat), wtList env t vs → Progress vs → rankList vs < f → k < (encList vs).length →
      decN (dec f env true t) vs.length ((encList vs).take k) = .err :=
  fun vs t f k hw hp hf hk =>
    err_of_prefix (decN_safe ((encList vs).drop k) env t _ (dec_safe _ env f t) _ _)
      (by simpa using decN_enc env hE vs t true f [] hw hp hf) fun _ _ => nil_ne_append_drop hk

theorem trunc_decEntries (env : Env) (hE : EnvOk env) :
    (kvs : List (Val × Val)) → ∀ (kt t : Ty) (f k : Nat) (acc : List (Val × Val)),
      wtKVs env kt t kvs → keysDistinct kt kvs → True → rankKVs kvs < f → k < (encKVs kvs).length →
      decEntries kt (dec f env true kt) (dec f env true t) kvs.length ((encKVs kvs).take k) acc = .err :=
  fun kvs kt t f k acc hw _ _ hf hk =>
    err_of_prefix (decEntries_safe ((encKVs kvs).drop k) env kt t kt _ _ (dec_safe _ env f kt) (dec_safe _ env f t) _ _ acc)
      (by simpa using decEntries_enc_fold env hE kvs kt t true f [] acc hw hf) fun _ _ => nil_ne_append_drop hk

/-- The nested form errs ⇒ the top-level form errs (the error arises before the cursor advance). -/
theorem unmarshal_err_of_parts (f : Nat) (env : Env) (n : Nat) (buf : List Byte)
    (hs : ∀ tys, env[n]? = some (.struct tys) → decFields (dec f env true) tys buf = .err)
    (hm : ∀ fds, env[n]? = some (.msg fds) → decMsgBody f env true fds buf = .err)
    (hu : ∀ brs, env[n]? = some (.union brs) → decUnionBody f env true brs buf = .err) :
    unmarshal f env true n buf = .err := by
  unfold unmarshal
  split
  · rfl
  · next tys hn => rw [hs tys hn]; rfl
  · next fds hn => rw [hm fds hn]; rfl
  · next brs hn => rw [hu brs hn]; rfl

/-- UnmarshalBebop on a strict prefix of a valid encoding errs: had it returned a value, that would be the encoded
    one, and it would have consumed `Size()` of it (`decRecord_safe`), more than the prefix holds. -/
theorem unmarshal_prefix_err (env : Env) (hE : EnvOk env) (n : Nat) (v : Val) (fuel : Nat)
    (h : wt env (.ref n) v) (hf : rank v < fuel + 1) (k : Nat) (hk : k < (enc v).length) :
    unmarshal fuel env true n ((enc v).take k) = .err := by
  have hfull := unmarshal_enc env hE n v true fuel h hf []
  rw [List.append_nil, unmarshal_eq, ← List.take_append_drop k (enc v)] at hfull
  obtain ⟨q, hq, hv⟩ := bind_eq_ok hfull
  rw [unmarshal_eq]
  refine bind_eq_err_of (err_of_prefix (decRecord_safe _ env fuel (fun m _ => dec_safe _ env m) n _) hq fun p hp e => ?_)
  rw [← (Prod.mk.inj e).1, Res.ok.inj hv, gsize_eq_vsize_of_wt env _ _ h, ← length_enc, List.length_take] at hp
  exact Nat.not_le_of_lt hk (Nat.le_trans hp (Nat.min_le_left ..))

end Bebop
