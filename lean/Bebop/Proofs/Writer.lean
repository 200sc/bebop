/-
  Helper lemmas: EncodeBebop over an ErrorWriter.  The error latch is only ever set, every exit returns
  it (or an error a nested call returned, which implies it), and if it is still clear at the end then
  every byte of the reference encoding was accepted, in order.
-/
import Bebop.Stream
import Bebop.Proofs.Enc

namespace Bebop

/-- What a stretch of encoder code that is supposed to write `bs` does to the writer state. -/
structure Step (okAt : Nat → Bool) (bs : List Byte) (st st' : WState) (r : Bool) : Prop where
  mono : st.k ≤ st'.k
  errIff : st'.err = true ↔ (st.err = true ∨ ∃ j, st.k ≤ j ∧ j < st'.k ∧ okAt j = false)
  retErr : r = true → st'.err = true
  out : st'.err = false → st'.out = st.out ++ bs

theorem step_nil (okAt : Nat → Bool) (st : WState) : Step okAt [] st st false where
  mono := Nat.le_refl _
  errIff := by
    constructor
    · intro h; exact Or.inl h
    · rintro (h | ⟨j, h1, h2, _⟩)
      · exact h
      · omega
  retErr := by simp
  out := by simp

theorem step_write (okAt : Nat → Bool) (bs : List Byte) (st : WState) :
    Step okAt bs st (swrite okAt bs st) false := by
  -- the one call made is call `st.k`
  have hj : (∃ j, st.k ≤ j ∧ j < st.k + 1 ∧ okAt j = false) ↔ okAt st.k = false :=
    ⟨fun ⟨j, h1, h2, h3⟩ => Nat.le_antisymm h1 (Nat.le_of_lt_succ h2) ▸ h3,
      fun h => ⟨_, Nat.le_refl _, Nat.lt_succ_self _, h⟩⟩
  unfold swrite
  cases h : okAt st.k <;> exact ⟨Nat.le_succ _, by simp [hj, h], nofun, by simp⟩

/-- Sequencing, when the first part did not unwind. -/
theorem step_seq {okAt : Nat → Bool} {a b : List Byte} {st st1 st2 : WState} {r1 r2 : Bool}
    (h1 : Step okAt a st st1 r1) (h2 : Step okAt b st1 st2 r2) : Step okAt (a ++ b) st st2 r2 where
  mono := Nat.le_trans h1.mono h2.mono
  errIff := by
    rw [h2.errIff, h1.errIff]
    have m1 := h1.mono
    have m2 := h2.mono
    constructor
    · rintro ((h | ⟨j, a1, a2, a3⟩) | ⟨j, a1, a2, a3⟩)
      · exact Or.inl h
      · exact Or.inr ⟨j, a1, by omega, a3⟩
      · exact Or.inr ⟨j, by omega, a2, a3⟩
    · rintro (h | ⟨j, a1, a2, a3⟩)
      · exact Or.inl (Or.inl h)
      · by_cases hj : j < st1.k
        · exact Or.inl (Or.inr ⟨j, a1, hj, a3⟩)
        · exact Or.inr ⟨j, by omega, a2, a3⟩
  retErr := h2.retErr
  out := by
    intro he
    have he1 : st1.err = false := by
      cases hh : st1.err with
      | false => rfl
      | true =>
        have := h2.errIff.mpr (Or.inl hh)
        rw [he] at this; cases this
    rw [h2.out he, h1.out he1, List.append_assoc]

/-- `let (st', r) := x; if r then (st', true) else y`: the first part may have unwound with an error, and
    then the rest is not executed. -/
theorem step_then {okAt : Nat → Bool} {a b : List Byte} {st : WState} {x y : WState × Bool}
    (h1 : Step okAt a st x.1 x.2) (h2 : Step okAt b x.1 y.1 y.2) :
    Step okAt (a ++ b) st (if x.2 then (x.1, true) else y).1 (if x.2 then (x.1, true) else y).2 := by
  obtain ⟨st1, r⟩ := x
  cases r with
  | false => exact step_seq h1 h2
  | true =>
    have he : st1.err = true := h1.retErr rfl
    exact ⟨h1.mono, h1.errIff, fun _ => he, fun h => Bool.noConfusion (he.symm.trans h)⟩

/-- `return w.Err` at the end of a method. -/
theorem step_ret {okAt : Nat → Bool} {a : List Byte} {st st1 : WState} {r : Bool}
    (h1 : Step okAt a st st1 r) : Step okAt a st st1 (r || st1.err) where
  mono := h1.mono
  errIff := h1.errIff
  retErr := by
    intro h
    cases hr : r with
    | true => exact h1.retErr hr
    | false => simpa [hr] using h
  out := h1.out

/-- What the caller of a whole method sees: it returns nil iff the latch is still clear, and then every call
    the method made had succeeded. -/
theorem Step.nil_iff {okAt : Nat → Bool} {bs : List Byte} {st st' : WState} {r : Bool} (h : Step okAt bs st st' r)
    (h0 : st.err = false) :
    ((r || st'.err) = false ↔ ∀ j, st.k ≤ j → j < st'.k → okAt j = true) ∧ ((r || st'.err) = false → st'.err = false) := by
  have hr : (r || st'.err) = false ↔ st'.err = false := by
    cases hr : r
    · simp
    · simp [h.retErr hr]
  refine ⟨hr.trans ?_, hr.mp⟩
  rw [← Bool.not_eq_true, h.errIff]
  simp only [h0, Bool.false_eq_true, false_or, not_exists, not_and, Bool.not_eq_false]

theorem step_congr {okAt : Nat → Bool} {a b : List Byte} {st st1 : WState} {r : Bool}
    (h : a = b) (h1 : Step okAt a st st1 r) : Step okAt b st st1 r := h ▸ h1

/- Each case is the model's clause read as a composition of steps: `senc okAt (.arr vs) st` IS (by definition)
   `sencList okAt vs (swrite …)`, and `let (st', r) := x; if r then (st', true) else y` IS the shape `step_then`
   speaks of.  Only the byte strings need rewriting where `enc` brackets them differently. -/
mutual
theorem senc_step (okAt : Nat → Bool) :
    (v : Val) → ∀ st : WState, Step okAt (enc v) st (senc okAt v st).1 (senc okAt v st).2
  | .scalar w n, st => step_write okAt (leBytes w n) st
  | .str bs, st => step_seq (step_write okAt (leBytes 4 bs.length) st) (step_write okAt bs _)
  | .guid bs, st => step_write okAt (guidWire bs) st
  | .arr vs, st => step_seq (step_write okAt (leBytes 4 vs.length) st) (sencList_step okAt vs _)
  | .map kvs, st => step_seq (step_write okAt (leBytes 4 kvs.length) st) (sencKVs_step okAt kvs _)
  | .struct [], st => step_nil okAt st
  | .struct (f :: fs), st => step_ret (sencList_step okAt (f :: fs) st)
  | .msg fs, st => step_congr (by rw [msg_prefix, enc_msg])
      (step_seq (step_write okAt _ st) (step_then (sencFields_step okAt fs _) (step_ret (step_write okAt [0] _))))
  | .union d v, st => step_congr (by rw [union_prefix]; rfl)
      (step_ret (step_seq (step_seq (step_write okAt _ st) (step_write okAt [UInt8.ofNat d] _)) (senc_step okAt v _)))
theorem sencList_step (okAt : Nat → Bool) :
    (vs : List Val) → ∀ st : WState, Step okAt (encList vs) st (sencList okAt vs st).1 (sencList okAt vs st).2
  | [], st => step_nil okAt st
  | v :: vs, st => step_then (senc_step okAt v st) (sencList_step okAt vs _)
theorem sencKVs_step (okAt : Nat → Bool) :
    (kvs : List (Val × Val)) → ∀ st : WState, Step okAt (encKVs kvs) st (sencKVs okAt kvs st).1 (sencKVs okAt kvs st).2
  | [], st => step_nil okAt st
  | (k, v) :: kvs, st => step_congr (List.append_assoc ..).symm
      (step_then (senc_step okAt k st) (step_then (senc_step okAt v _) (sencKVs_step okAt kvs _)))
theorem sencFields_step (okAt : Nat → Bool) :
    (fs : List (Nat × Val)) → ∀ st : WState, Step okAt (encFields fs) st (sencFields okAt fs st).1 (sencFields okAt fs st).2
  | [], st => step_nil okAt st
  | (i, v) :: fs, st =>
      step_seq (a := [UInt8.ofNat i]) (step_write okAt _ st) (step_then (senc_step okAt v _) (sencFields_step okAt fs _))
end

/-- `EncodeBebop(w)` on a fresh writer returns nil iff every `Write` it made succeeded, and then the writer has
    accepted exactly the encoding. -/
theorem encodeStream_spec (okAt : Nat → Bool) (v : Val) :
    ((encodeStream okAt v).2 = false ↔ ∀ j, j < (encodeStream okAt v).1.k → okAt j = true) ∧
    ((encodeStream okAt v).2 = false → (encodeStream okAt v).1.out = enc v) := by
  have h := senc_step okAt v { k := 0, err := false, out := [] }
  obtain ⟨hiff, herr⟩ := h.nil_iff rfl
  exact ⟨hiff.trans ⟨fun H j => H j (Nat.zero_le j), fun H j _ => H j⟩,
    fun hnil => (h.out (herr hnil)).trans (List.nil_append _)⟩

end Bebop
