/-
  C01 — Encode then decode returns the value that was encoded, for all 3 × 3 pairings.

  Values are wire-level (`Val`): the wire format's own normalisations (deprecated fields not sent, nil =
  empty, dates as UTC 100 ns ticks, one union member) are applied by the abstraction function from Go
  values to `Val`, which the correspondence harness implements and exercises; `wt` says which `Val`s are
  images of Go values of a record type.
-/
import Bebop.Props.C02
import Bebop.Proofs.RoundTrip
import Bebop.Proofs.StreamEvolve

namespace Bebop

/-- Every decoder returns exactly the encoded value (with anything at all following it in the buffer or
    on the stream). -/
theorem C01_decoders_invert_enc (env : Env) (hE : EnvOk env) (n : Nat) (v : Val) (fuel : Nat)
    (h : wt env (.ref n) v) (hf : rank v < fuel + 1) (d : Decoder) :
    runDec fuel env n d (enc v) = some v := by
  have hu := fun safe => unmarshal_enc env hE n v safe fuel h hf []
  have hs := decodeStream_evo hE (Extends.refl env) h hf []
  simp only [List.append_nil, restrict_self env _ v h] at hu hs
  cases d <;> simp [runDec, hu, hs]

/-- The 3 × 3 theorem: whichever encoder is paired with whichever decoder, decoding the bytes produced by
    encoding `v` yields `v`. -/
theorem C01_roundtrip (env : Env) (hE : EnvOk env) (n : Nat) (v : Val) (fuel : Nat)
    (h : wt env (.ref n) v) (hf : rank v < fuel + 1) (e : Encoder) (d : Decoder)
    (hbuf : ∀ buf, e = .marshalTo buf → vsize v ≤ buf.length) :
    ∃ bs, runEnc e v = some bs ∧ runDec fuel env n d bs = some v :=
  ⟨enc v, C02_encoders_agree v e hbuf, C01_decoders_invert_enc env hE n v fuel h hf d⟩

/-- Dates: every tick count whose nanosecond value fits int64 survives the ×100 / ÷100 conversion of
    ReadDateBytes / the date writer; tick 0 is the zero time on both sides. -/
theorem C01_date_ticks (n : Nat) (h : dateOk n) : dateNorm n = n := dateNorm_of_ok n h

/-- The guard is needed: outside the int64-nanosecond range the conversion wraps. -/
theorem C01_date_out_of_range_witness : dateNorm (2^62) ≠ 2^62 := by decide

/-- Non-vacuity: the example value satisfies the hypotheses, so all nine pairings return it. -/
example (e : Encoder) (d : Decoder) (hbuf : ∀ buf, e = .marshalTo buf → vsize exVal ≤ buf.length) :
    ∃ bs, runEnc e exVal = some bs ∧ runDec 20 exEnv 3 d bs = some exVal :=
  C01_roundtrip exEnv exEnv_ok 3 exVal 20 exVal_wt (by decide) e d hbuf

end Bebop
