/-
  C02 — All encoders emit the same bytes and Size() is their exact length.

  `enc` is the reference encoding (Bebop.Wire); `vsize` is what Size() computes on a value without
  deprecated fields (every `wt` value; `gsize` is Size() in general, `C02_size_is_go_size`); `marshal`, `marshalTo`
  (Bebop.Slice) and `encodeStream` (Bebop.Stream) model the three generated encoders.
  Map entries: a `Val` carries its entries in the order they go on the wire, so "the same bytes up to
  the order of map entries" is "the same bytes for the same `Val`".
-/
import Bebop.Props.Common
import Bebop.Proofs.Writer
import Bebop.Proofs.GSize

namespace Bebop

/-- Size() is exactly the length of the encoding. -/
theorem C02_size_exact (v : Val) : vsize v = (enc v).length := (length_enc v).symm

/-- The link to the generated `Size()` proper (`gsize`, type-directed: it skips the fields a message
    definition marks deprecated): on every well-typed value — which holds no deprecated field, the encoders
    never write one — it is `vsize`, hence the length of the encoding. -/
theorem C02_size_is_go_size (env : Env) (ty : Ty) (v : Val) (h : wt env ty v) : gsize env ty v = vsize v :=
  gsize_eq_vsize_of_wt env v ty h

/-- MarshalBebopTo into ANY buffer that is long enough, whatever it held before: the first Size() bytes
    become the encoding, every byte after them is untouched, and the returned count is Size(). It never
    panics there. This is the frame condition: nothing outside the first Size() bytes is written. -/
theorem C02_marshalTo_frame (v : Val) (buf : List Byte) (h : vsize v ≤ buf.length) :
    marshalTo v buf = some (enc v ++ buf.drop (vsize v), vsize v) := by
  have := writePieces_eq (pieces v) buf 0 (by simpa [flatten_pieces, length_enc] using h)
  simpa [marshalTo, flatten_pieces, length_enc] using this

/-- MarshalBebop() returns exactly the reference encoding. -/
theorem C02_marshal_eq_enc (v : Val) : marshal v = some (enc v) := by
  have := C02_marshalTo_frame v (List.replicate (vsize v) 0) (by simp)
  simp [marshal, this]

/-- EncodeBebop to a writer that accepts everything returns nil and has written exactly the encoding. -/
theorem C02_encodeStream_eq_enc (v : Val) :
    encodeStream (fun _ => true) v = ((encodeStream (fun _ => true) v).1, false) ∧
    (encodeStream (fun _ => true) v).1.out = enc v := by
  obtain ⟨hiff, hout⟩ := encodeStream_spec (fun _ => true) v
  have hnil := hiff.mpr fun _ _ => rfl
  exact ⟨Prod.ext rfl hnil, hout hnil⟩

/-- All three encoders agree, byte for byte. -/
theorem C02_encoders_agree (v : Val) (e : Encoder)
    (hbuf : ∀ buf, e = .marshalTo buf → vsize v ≤ buf.length) : runEnc e v = some (enc v) := by
  cases e with
  | marshal => exact C02_marshal_eq_enc v
  | marshalTo buf =>
    have := C02_marshalTo_frame v buf (hbuf buf rfl)
    simp [runEnc, this, C02_size_exact]
  | encodeStream =>
    have := C02_encodeStream_eq_enc v
    simp only [runEnc]
    rw [this.1]; simp [this.2]

/-- Two iteration orders of a Go map give encodings of the same length that begin with the same count prefix
    (between them `enc` only permutes the entry encodings, which this statement does not spell out). -/
theorem C02_map_order (kvs kvs' : List (Val × Val)) (h : kvs.Perm kvs') :
    (enc (.map kvs)).length = (enc (.map kvs')).length ∧ (enc (.map kvs)).take 4 = (enc (.map kvs')).take 4 := by
  have hs : vsizeKVs kvs = vsizeKVs kvs' := by
    induction h with
    | nil => rfl
    | cons x _ ih => obtain ⟨k, v⟩ := x; simp [vsizeKVs, ih]
    | swap x y l => obtain ⟨k, v⟩ := x; obtain ⟨k', v'⟩ := y; simp [vsizeKVs]; omega
    | trans _ _ ih1 ih2 => exact ih1.trans ih2
  have hl : kvs.length = kvs'.length := h.length_eq
  constructor
  · simp [length_enc, vsize, hs]
  · simp [enc, hl]

/-- Non-vacuity: the example value is non-trivial, and the encoders produce its 94 bytes. -/
example : (enc exVal).length = vsize exVal ∧ vsize exVal = 94 := by
  refine ⟨(C02_size_exact exVal).symm, by decide⟩
example (buf : List Byte) (hb : buf.length = 200) : runEnc (.marshalTo buf) exVal = some (enc exVal) :=
  C02_encoders_agree exVal _ (by
    intro buf h; cases h
    have : vsize exVal = 94 := by decide
    omega)

/-- The model treats an enum as a scalar of its base width everywhere (the Size() short cut for arrays of enums
    rests on this). The regenerated fact says File.fixedSizes does so for EVERY enum, imported ones included (loop
    over f.Enums with the single statement `out[en.Name] = fixedSizeTypes[en.SimpleType]`). -/
theorem C02_enum_sizes_as_modelled : Facts.enumFixedSizeRule = "base-width" := by decide

end Bebop
