/-
  C03 — Generated codecs speak the Bebop wire format, checked against a reference.

  The reference is `enc` (Bebop.Wire), written from the published format: little-endian fixed-width
  scalars, u32-length-prefixed strings / arrays / maps, GUIDs in .NET field order, messages as
  u32 body length + (index, value)* + 0, unions as u32 length + discriminator + body, enums as their base
  integer.  It shares nothing with the operational model (`pieces`, `marshalTo`, `senc`, `dec`, `sdec`),
  which takes its constants (Size()-4, Size()-5, bodyLen := 5 / 4, GUID tables, fixed sizes) from
  Bebop.Generated.Facts, regenerated from /repo on every run.
-/
import Bebop.Props.C01

namespace Bebop

/-- Encode direction: what the generated encoders emit IS the reference encoding. -/
theorem C03_encoders_emit_reference (v : Val) (e : Encoder)
    (hbuf : ∀ buf, e = .marshalTo buf → vsize v ≤ buf.length) : runEnc e v = some (enc v) :=
  C02_encoders_agree v e hbuf

private theorem keyEq_aux (x y : Nat) (p : Nat → Bool) (cx cy : Bool) :
    (x == y && !p x || cx && cy) = (y == x && !p y || cy && cx) := by
  rw [Bool.and_comm cx, Bool.beq_comm (a := x)]
  cases h : y == x
  · rfl
  · rw [eq_of_beq h]

/-- The five ways in which two keys are equal, each symmetric. -/
theorem keyEq_symm (kt : Ty) (a b : Val) : keyEq kt a b = true → keyEq kt b a = true := by
  fun_cases keyEq kt a b
  · exact (keyEq_aux _ _ isNaN32 _ _).trans
  · exact (keyEq_aux _ _ isNaN64 _ _).trans
  · rw [keyEq.eq_3 _ _ _ _ _ ‹_› ‹_›, Bool.beq_comm]; exact id
  · rw [keyEq.eq_4, Bool.beq_comm]; exact id
  · rw [keyEq.eq_5, Bool.beq_comm]; exact id
  · nofun

theorem keyEq_comm (kt : Ty) (a b : Val) : keyEq kt a b = keyEq kt b a :=
  Bool.eq_iff_iff.mpr ⟨keyEq_symm kt a b, keyEq_symm kt b a⟩

theorem keysDistinct_perm (kt : Ty) {kvs kvs' : List (Val × Val)} (h : kvs.Perm kvs')
    (hd : keysDistinct kt kvs) : keysDistinct kt kvs' := by
  induction h with
  | nil => exact hd
  | cons x h ih => exact ⟨fun kv hkv => hd.1 kv (h.mem_iff.2 hkv), ih hd.2⟩
  | swap x y l =>
    exact ⟨List.forall_mem_cons.2 ⟨keyEq_comm .. ▸ hd.1 x (.head _), hd.2.1⟩, fun kv hkv => hd.1 kv (.tail _ hkv), hd.2.2⟩
  | trans _ _ ih₁ ih₂ => exact ih₂ (ih₁ hd)

theorem wtKVs_perm (env : Env) (k t : Ty) {kvs kvs' : List (Val × Val)} (h : kvs.Perm kvs')
    (hw : wtKVs env k t kvs) : wtKVs env k t kvs' := by
  induction h with
  | nil => exact hw
  | cons x _ ih => exact ⟨hw.1, hw.2.1, ih hw.2.2⟩
  | swap x y l => exact ⟨hw.2.2.1, hw.2.2.2.1, hw.1, hw.2.1, hw.2.2.2.2⟩
  | trans _ _ ih₁ ih₂ => exact ih₂ (ih₁ hw)

/-- A map value stays a value of its type under any reordering of its entries. -/
theorem wt_map_perm (env : Env) (ty : Ty) {kvs kvs' : List (Val × Val)} (h : kvs.Perm kvs')
    (hw : wt env ty (.map kvs)) : wt env ty (.map kvs') := by
  obtain ⟨k, t, rfl, hk, hl, hwk, hd⟩ := hw
  exact ⟨k, t, rfl, hk, by rw [← h.length_eq]; exact hl, wtKVs_perm env k t h hwk, keysDistinct_perm k h hd⟩

/-- Decode direction: every decoder accepts every conformant encoding — in particular the encoding
    with the map entries in ANY order — and yields that value. (As Go maps the results are equal.) -/
theorem C03_decoders_accept_any_entry_order (env : Env) (hE : EnvOk env) (n : Nat) (fuel : Nat)
    (kvs kvs' : List (Val × Val)) (hperm : kvs.Perm kvs')
    (h : wt env (.ref n) (.struct [.map kvs])) (hf : rank (.struct [.map kvs']) < fuel + 1) (d : Decoder) :
    runDec fuel env n d (enc (.struct [.map kvs'])) = some (.struct [.map kvs']) := by
  apply C01_decoders_invert_enc env hE n _ fuel _ hf d
  obtain ⟨m, _ | ⟨t, _ | _⟩, hm, hn, hs⟩ := h
  · cases hs
  · exact ⟨m, _, hm, hn, wt_map_perm env t hperm hs.1, trivial⟩
  · cases hs.2

/-- General form: decoding inverts `enc` on every well-typed value, whatever order its maps are in. -/
theorem C03_decoders_accept_reference (env : Env) (hE : EnvOk env) (n : Nat) (v : Val) (fuel : Nat)
    (h : wt env (.ref n) v) (hf : rank v < fuel + 1) (d : Decoder) :
    runDec fuel env n d (enc v) = some v := C01_decoders_invert_enc env hE n v fuel h hf d

/-! Layout facts of the reference, stated outright. -/

theorem C03_scalar_little_endian (w n : Nat) : enc (.scalar (w+1) n) = UInt8.ofNat (n % 256) :: leBytes w (n / 256) := rfl
theorem C03_string_layout (bs : List Byte) : enc (.str bs) = leBytes 4 bs.length ++ bs := rfl
theorem C03_array_layout (vs : List Val) : enc (.arr vs) = leBytes 4 vs.length ++ encList vs := rfl
theorem C03_message_layout (fs : List (Nat × Val)) :
    enc (.msg fs) = leBytes 4 ((encFields fs ++ [0]).length) ++ (encFields fs ++ [0]) := by simp [enc]
theorem C03_union_layout (d : Nat) (v : Val) :
    enc (.union d v) = leBytes 4 (enc v).length ++ [UInt8.ofNat d] ++ enc v := rfl

/-- The GUID tables regenerated from iohelp are the .NET field order, in all three places. -/
theorem C03_guid_tables :
    Facts.guidWritePerm = guidSpecPerm ∧ Facts.guidWriteStreamPerm = guidSpecPerm ∧ Facts.guidReadPerm = guidSpecPerm := by
  decide

/-- The repository counts date ticks from the Unix epoch; the published format (and the TypeScript runtime in
    testdata/ts) counts from 0001-01-01. The two differ by this constant number of 100 ns ticks; `enc` follows
    the repository's convention for dates (DESIGN §7, C03; not an entry of known_findings.jsonl). -/
def ticksBetweenEpochs : Nat := 621355968000000000

/-- Non-vacuity: `exMsg` holds a two-entry map. -/
example : runDec 9 exEnv 1 .unmarshal (enc exMsg) = some exMsg :=
  C03_decoders_accept_reference exEnv exEnv_ok 1 exMsg 9 exMsg_wt (by decide) _

/-- `C02_enum_sizes_as_modelled`, stated for this property too: the width of an enum element on the wire rests on it. -/
theorem C03_enum_sizes_as_modelled : Facts.enumFixedSizeRule = "base-width" := C02_enum_sizes_as_modelled

end Bebop
