/-
  C04 — Schema evolution (forward compatibility).

  A record encoded under a NEWER version of a schema (`env2`: messages have gained fields with fresh, higher
  indices; or the peer still transmits a field the reader has marked deprecated) decodes without error under
  the OLDER version (`env1`) to the same value restricted to the fields the older version knows
  (`restrict env1`).  This holds wherever the evolved message sits — `restrict` recurses through struct
  fields, array elements, map values, message fields and union branches, and keeps everything that is not an
  unknown message field, so every field that follows an evolved message in its container is decoded intact.

  * DecodeBebop (io.Reader): full strength, `C04_decode_evolved`.
  * UnmarshalBebop / MustUnmarshalBebop (byte slice): `C04_unmarshal_evolved_partial`, under the guard
    `TopStable`; `C04_nested_struct_counterexample` shows that the guard cannot be dropped (a listed finding:
    the parent steps over a nested STRUCT by `Size()` of what it understood).  `Size()` is the reader's
    generated one (`gsize env1`): it leaves out the fields the reader does not know AND the fields the reader
    marks deprecated, so the second scenario needs the guard as well
    (`C04_deprecated_nested_struct_counterexample`).  The guard constrains only structs somebody steps over
    by `Size()`: the top-level struct is exempt, and so is a struct that is itself a UNION BRANCH — the
    union decodes its member last and is stepped over by its own length prefix — which is treated like a
    top-level struct: only what it contains is constrained (`C04_union_branch_struct_example`).
-/
import Bebop.Props.Common
import Bebop.Proofs.Evolve
import Bebop.Proofs.StreamEvolve

namespace Bebop

/-! ### A. DecodeBebop: full strength -/

/-- DecodeBebop of the older schema on a record the newer schema encoded returns nil and the restricted
    value, having taken from the reader exactly the bytes of the record (whatever follows on the stream is
    left unread) — for every record kind and wherever the evolved messages sit. No guard. -/
theorem C04_decode_evolved (env1 env2 : Env) (hE1 : EnvOk env1) (hx : Extends env1 env2) (n : Nat) (v : Val)
    (hw : wt env2 (.ref n) v) (f : Nat) (hf : rank v < f) (rest : List Byte) :
    decodeStream f env1 n (enc v ++ rest) = .ok (restrict env1 (.ref n) v) (enc v).length :=
  decodeStream_evo hE1 hx hw hf rest

/-- The same for a field of any type in any position: with the reader healthy and about to deliver `enc v`
    within all installed limited readers, the field decoder of the older schema yields the restricted value
    and leaves the reader exactly behind the field — so whatever follows it in its container is read from
    the right place. -/
theorem C04_decode_evolved_field (env1 env2 : Env) (hE1 : EnvOk env1) (hx : Extends env1 env2) (ty : Ty) (v : Val)
    (hw : wt env2 ty v) (f : Nat) (hf : rank v < f) (s : RState) (hr : Reads s (enc v)) :
    sdec f env1 ty s = (.val (restrict env1 ty v), s.consume (enc v).length) :=
  sdec_evo hE1 hx f ty v s hw hf hr

/-! ### B. UnmarshalBebop / MustUnmarshalBebop: guarded -/

/-- UnmarshalBebop (`safe = true`) and MustUnmarshalBebop (`safe = false`) of the older schema on a record
    the newer schema encoded (anything may follow it in the buffer) return the restricted value.

    PARTIAL: holds under the guard `TopStable env1 n v`.  The guard excludes exactly the values in which some
    STRUCT that somebody steps over by its `Size()` — a struct-typed struct field, array element, map value
    or message field value — contains, at any depth, a message field the older schema does not
    know or marks deprecated (precisely: `gsize env1 (.ref m) (restrict env1 (.ref m) s) ≠ vsize s` for that
    struct `s` — the reader's `Size()` of what it decodes differs from the bytes on the wire).  Two kinds of
    struct are NOT stepped over by `Size()` and are exempt themselves (the structs nested inside them are
    not): the top-level record, and a struct that is itself a union member — the union decodes its member
    last and the union is stepped over by its length prefix, so such a struct is treated like a top-level
    struct (`structsStable_union`, `C04_union_branch_struct_example`).  Evolved messages
    that are the top-level record, or sit directly or through arrays / maps / messages / unions in a
    top-level struct, message or union (or in a union-member struct) without an intervening nested struct,
    are all covered.  `C04_nested_struct_counterexample` shows the excluded case really fails. -/
theorem C04_unmarshal_evolved_partial (env1 env2 : Env) (hE1 : EnvOk env1) (hx : Extends env1 env2) (n : Nat)
    (v : Val) (safe : Bool) (f : Nat) (hw : wt env2 (.ref n) v) (hs : TopStable env1 n v) (hf : rank v < f + 1)
    (rest : List Byte) :
    unmarshal f env1 safe n (enc v ++ rest) = .ok (restrict env1 (.ref n) v) :=
  unmarshal_evo env1 env2 hE1 hx n v safe f hw hs hf rest

/-- Field level, same guard in nested position: the cursor ends exactly behind the field (`rest` is
    returned untouched), which is why fields after a nested evolved MESSAGE are intact: the parent advances
    by the length prefix on the wire, not by what it understood. -/
theorem C04_unmarshal_evolved_field_partial (env1 env2 : Env) (hE1 : EnvOk env1) (hx : Extends env1 env2) (ty : Ty)
    (v : Val) (safe : Bool) (f : Nat) (hw : wt env2 ty v) (hs : StructsStable env1 ty v) (hf : rank v < f)
    (rest : List Byte) :
    dec f env1 safe ty (enc v ++ rest) = .ok (restrict env1 ty v, rest) :=
  dec_evo hE1 hx f safe ty v rest hw hs hf

/-- The safe variant's `max(wire length, Size())` never exceeds the wire length: restriction cannot grow
    `Size()`. -/
theorem C04_restrict_size_le (env1 : Env) (ty : Ty) (v : Val) : vsize (restrict env1 ty v) ≤ vsize v :=
  vsize_restrict_le env1 v ty

/-- … and the reader's generated `Size()` of what it decodes — which in addition skips the fields the
    reader marks deprecated — is smaller still.  This is the number in the safe variant's `max`. -/
theorem C04_reader_size_le_wire (env1 : Env) (ty : Ty) (v : Val) :
    gsize env1 ty (restrict env1 ty v) ≤ vsize v :=
  gsize_restrict_le env1 v ty

/-! ### C. The guard cannot be dropped -/

/-- Old schema: `message Ev {1 -> uint32 a;}  struct Inner {Ev m; uint32 after;}  struct Outer {Inner s; uint32 tail;}` -/
def cxEnv1 : Env :=
  [.msg [⟨1, .scalar 4, false⟩], .struct [.ref 0, .scalar 4], .struct [.ref 1, .scalar 4]]
/-- New schema: `Ev` has gained `2 -> uint32 b;`. -/
def cxEnv2 : Env :=
  [.msg [⟨1, .scalar 4, false⟩, ⟨2, .scalar 4, false⟩], .struct [.ref 0, .scalar 4], .struct [.ref 1, .scalar 4]]
/-- `Outer{s: Inner{m: Ev{a: 1, b: 2}, after: 3}, tail: 4}` -/
def cxVal : Val := .struct [.struct [.msg [(1, .scalar 4 1), (2, .scalar 4 2)], .scalar 4 3], .scalar 4 4]

theorem cxEnv1_ok : EnvOk cxEnv1 := by decide

theorem cx_extends : Extends cxEnv1 cxEnv2 :=
  ⟨DefExtends.msg_of_mem (by decide), rfl, rfl, trivial⟩

/-- `Inner{m: Ev{a: 1, b: 2}, after: 3}`, the nested struct of `cxVal`, as a record of its own. -/
def cxInner : Val := .struct [.msg [(1, .scalar 4 1), (2, .scalar 4 2)], .scalar 4 3]

theorem wt_u32 {env : Env} {n : Nat} (h : n < 256 ^ 4 := by decide) : wt env (.scalar 4) (.scalar 4 n) :=
  ⟨h, .inl ⟨rfl, by decide⟩⟩

/-- `cxInner` is an `Inner` in every schema whose first two definitions are the new `Ev` and `Inner`. -/
theorem inner_wt {env : Env} (h0 : env[0]? = some (.msg [⟨1, .scalar 4, false⟩, ⟨2, .scalar 4, false⟩]))
    (h1 : env[1]? = some (.struct [.ref 0, .scalar 4])) : wt env (.ref 1) cxInner := by
  refine ⟨1, _, rfl, h1, ⟨0, _, rfl, h0, ?_, by decide⟩, wt_u32, trivial⟩
  exact ⟨by decide, by decide, ⟨_, rfl, rfl, wt_u32⟩, by decide, by decide, ⟨_, rfl, rfl, wt_u32⟩, trivial⟩

/-- … and as a record nobody steps over it meets the guard, whatever fields the schema's `Ev` has: the message
    sits directly in it and holds no struct. -/
theorem inner_stable {env : Env} {fds : List MsgField} (h0 : env[0]? = some (.msg fds))
    (h1 : env[1]? = some (.struct [.ref 0, .scalar 4])) : TopStable env 1 cxInner := by
  simp only [TopStable, cxInner, h1, stableStruct, StructsStable, h0, stableFields, and_true]
  split <;> split <;> trivial

theorem cxInner_wt : wt cxEnv2 (.ref 1) cxInner := inner_wt rfl rfl

theorem cxVal_wt : wt cxEnv2 (.ref 2) cxVal := ⟨2, _, rfl, rfl, cxInner_wt, wt_u32, trivial⟩

/-- An evolved message inside a NESTED struct: all hypotheses of `C04_unmarshal_evolved_partial` except the
    guard hold (`cxEnv1_ok`, `cx_extends`, `cxVal_wt`), and both byte-slice decoders return nil with a WRONG
    value — `Inner` is decoded correctly, but `Outer` steps over it by `Size()` of the restricted `Inner`
    (14 instead of 19 bytes) and reads `tail` from the middle of it: 768 instead of 4.  DecodeBebop gets the
    same bytes right. -/
theorem C04_nested_struct_counterexample :
    unmarshal 10 cxEnv1 true 2 (enc cxVal) ≠ .ok (restrict cxEnv1 (.ref 2) cxVal) ∧
    unmarshal 10 cxEnv1 false 2 (enc cxVal) ≠ .ok (restrict cxEnv1 (.ref 2) cxVal) ∧
    unmarshal 10 cxEnv1 true 2 (enc cxVal)
      = .ok (.struct [.struct [.msg [(1, .scalar 4 1)], .scalar 4 3], .scalar 4 768]) ∧
    restrict cxEnv1 (.ref 2) cxVal = .struct [.struct [.msg [(1, .scalar 4 1)], .scalar 4 3], .scalar 4 4] ∧
    ¬ TopStable cxEnv1 2 cxVal ∧
    decodeStream 10 cxEnv1 2 (enc cxVal) = .ok (restrict cxEnv1 (.ref 2) cxVal) (enc cxVal).length := by
  have h1 : unmarshal 10 cxEnv1 true 2 (enc cxVal)
      = .ok (.struct [.struct [.msg [(1, .scalar 4 1)], .scalar 4 3], .scalar 4 768]) := by rfl
  have h2 : unmarshal 10 cxEnv1 false 2 (enc cxVal)
      = .ok (.struct [.struct [.msg [(1, .scalar 4 1)], .scalar 4 3], .scalar 4 768]) := by rfl
  have h3 : restrict cxEnv1 (.ref 2) cxVal
      = .struct [.struct [.msg [(1, .scalar 4 1)], .scalar 4 3], .scalar 4 4] := by rfl
  refine ⟨?_, ?_, h1, h3, ?_, ?_⟩
  · rw [h1, h3]; simp
  · rw [h2, h3]; simp
  · exact fun h => absurd h.1.1 (by decide)
  · exact C04_decode_evolved cxEnv1 cxEnv2 cxEnv1_ok cx_extends 2 cxVal cxVal_wt 10 (by decide) [] |>
      (by simpa using ·)

/-- The same evolved message directly in the TOP-LEVEL struct (`Inner` of the counterexample decoded as the
    top-level record) is inside the guard: `after`, which follows it, is intact with both slice decoders. -/
example (safe : Bool) (rest : List Byte) :
    unmarshal 10 cxEnv1 safe 1 (enc (.struct [.msg [(1, .scalar 4 1), (2, .scalar 4 2)], .scalar 4 3]) ++ rest)
      = .ok (.struct [.msg [(1, .scalar 4 1)], .scalar 4 3]) :=
  C04_unmarshal_evolved_partial cxEnv1 cxEnv2 cxEnv1_ok cx_extends 1 cxInner safe 10 cxInner_wt (inner_stable rfl rfl)
    (by decide) rest

/-! ### D. The reader has marked a field deprecated; same schema -/

/-- If the reader's schema also knows every field of the sender's (`Extends env2 env1` — e.g. the two are
    equal, or differ only in which fields carry the `deprecated` flag), restriction is the identity. -/
theorem C04_restrict_id_of_known (env1 env2 : Env) (hx : Extends env2 env1) (ty : Ty) (v : Val) (hw : wt env2 ty v) :
    restrict env1 ty v = v :=
  restrict_id_of_known env1 env2 hx v ty hw

theorem C04_restrict_self (env : Env) (ty : Ty) (v : Val) (hw : wt env ty v) : restrict env ty v = v :=
  restrict_self env ty v hw

/-- A peer still transmitting fields the reader has marked deprecated (schemas equal up to `deprecated`
    flags, stated as extension in both directions): DecodeBebop returns the value unchanged, the deprecated
    fields included, with no guard; the two byte-slice decoders do so under the guard `TopStable env1 n v`.

    The slice half needs the guard because the generated `Size()` (`gsize`) skips the fields the reader marks
    deprecated: the generated code steps over a nested STRUCT by its `Size()`; a deprecated field
    the peer still sends makes that smaller than the struct's bytes on the wire, and whatever follows the
    struct is read from the wrong place — `C04_deprecated_nested_struct_counterexample`.  The guard holds
    whenever no such field sits inside a struct in nested position (messages that are the top-level record
    or reached from it through arrays / maps / messages / unions / the top-level struct's own fields are
    fine: they are stepped over by the length prefix). -/
theorem C04_deprecated_still_decoded (env1 env2 : Env) (hE1 : EnvOk env1) (hx : Extends env1 env2)
    (hx' : Extends env2 env1) (n : Nat) (v : Val) (hw : wt env2 (.ref n) v) (f : Nat) (hf : rank v < f + 1)
    (rest : List Byte) :
    decodeStream (f+1) env1 n (enc v ++ rest) = .ok v (enc v).length ∧
    (TopStable env1 n v → ∀ safe, unmarshal f env1 safe n (enc v ++ rest) = .ok v) := by
  have hid := restrict_id_of_known env1 env2 hx' v (.ref n) hw
  constructor
  · have := C04_decode_evolved env1 env2 hE1 hx n v hw (f+1) (by omega) rest
    rwa [hid] at this
  · intro hs safe
    have := C04_unmarshal_evolved_partial env1 env2 hE1 hx n v safe f hw hs hf rest
    rwa [hid] at this

/-- With `env1 = env2` the evolution theorems are the round-trip theorems of C01 / C05. -/
theorem C04_same_schema_roundtrip (env : Env) (hE : EnvOk env) (n : Nat) (v : Val) (hw : wt env (.ref n) v)
    (f : Nat) (hf : rank v < f + 1) (rest : List Byte) :
    decodeStream (f+1) env n (enc v ++ rest) = .ok v (enc v).length ∧
    ∀ safe, unmarshal f env safe n (enc v ++ rest) = .ok v :=
  have h := C04_deprecated_still_decoded env env hE (Extends.refl env) (Extends.refl env) n v hw f hf rest
  ⟨h.1, h.2 (topStable_self env n v hw)⟩

/-- Concrete instance: the reader has marked field 2 of `Ev` deprecated, the peer still sends it. -/
def depEnv1 : Env :=
  [.msg [⟨1, .scalar 4, false⟩, ⟨2, .scalar 4, true⟩], .struct [.ref 0, .scalar 4], .struct [.ref 1, .scalar 4]]

theorem depEnv1_ok : EnvOk depEnv1 := by decide

theorem dep_extends : Extends depEnv1 cxEnv2 := ⟨DefExtends.msg_of_mem (by decide), rfl, rfl, trivial⟩
theorem dep_extends' : Extends cxEnv2 depEnv1 := ⟨DefExtends.msg_of_mem (by decide), rfl, rfl, trivial⟩

/-- `Inner{m: Ev{a, b}, after}` as the top-level record: the message with the deprecated field sits directly
    in the top-level struct, the guard holds, and both slice decoders return the value with `b` and with
    `after` intact. -/
example (safe : Bool) (rest : List Byte) : unmarshal 10 depEnv1 safe 1 (enc cxInner ++ rest) = .ok cxInner :=
  (C04_deprecated_still_decoded depEnv1 cxEnv2 depEnv1_ok dep_extends dep_extends' 1 cxInner cxInner_wt 10
    (by decide) rest).2 (inner_stable rfl rfl) safe

/-- The guard of `C04_deprecated_still_decoded` cannot be dropped: the same `Inner` as a NESTED struct of
    `Outer`.  All other hypotheses hold (`depEnv1_ok`, `dep_extends`, `dep_extends'`, `cxVal_wt`); both
    byte-slice decoders return nil with a WRONG value: `Inner` is decoded correctly, deprecated `b`
    included, but `Outer` steps over it by `Inner.Size()`, which leaves `b` out (14 instead of 19 bytes),
    and reads `tail` from the middle of it: 768 instead of 4.  DecodeBebop gets the same bytes right. -/
theorem C04_deprecated_nested_struct_counterexample :
    unmarshal 10 depEnv1 true 2 (enc cxVal)
      = .ok (.struct [.struct [.msg [(1, .scalar 4 1), (2, .scalar 4 2)], .scalar 4 3], .scalar 4 768]) ∧
    unmarshal 10 depEnv1 false 2 (enc cxVal)
      = .ok (.struct [.struct [.msg [(1, .scalar 4 1), (2, .scalar 4 2)], .scalar 4 3], .scalar 4 768]) ∧
    unmarshal 10 depEnv1 true 2 (enc cxVal) ≠ .ok cxVal ∧
    unmarshal 10 depEnv1 false 2 (enc cxVal) ≠ .ok cxVal ∧
    gsize depEnv1 (.ref 1) cxInner = 14 ∧ vsize cxInner = 19 ∧
    ¬ TopStable depEnv1 2 cxVal ∧
    decodeStream 10 depEnv1 2 (enc cxVal) = .ok cxVal (enc cxVal).length := by
  have h1 : unmarshal 10 depEnv1 true 2 (enc cxVal)
      = .ok (.struct [.struct [.msg [(1, .scalar 4 1), (2, .scalar 4 2)], .scalar 4 3], .scalar 4 768]) := by rfl
  have h2 : unmarshal 10 depEnv1 false 2 (enc cxVal)
      = .ok (.struct [.struct [.msg [(1, .scalar 4 1), (2, .scalar 4 2)], .scalar 4 3], .scalar 4 768]) := by rfl
  refine ⟨h1, h2, ?_, ?_, by decide, by decide, ?_, ?_⟩
  · rw [h1]; simp [cxVal]
  · rw [h2]; simp [cxVal]
  · exact fun h => absurd h.1.1 (by decide)
  · exact (C04_deprecated_still_decoded depEnv1 cxEnv2 depEnv1_ok dep_extends dep_extends' 2 cxVal cxVal_wt 9
      (by decide) []).1 |> (by simpa using ·)

/-! ### E. Non-vacuity: an evolved message in an array inside a message -/

/-- Old: `message Ev {1 -> uint32 a;}  message Box {1 -> Ev[] evs; 2 -> uint32 after;}` -/
def evEnv1 : Env :=
  [.msg [⟨1, .scalar 4, false⟩], .msg [⟨1, .arr (.ref 0), false⟩, ⟨2, .scalar 4, false⟩]]
/-- New: `Ev` has gained `2 -> string note;`, `Box` has gained `3 -> bool flag;`. -/
def evEnv2 : Env :=
  [.msg [⟨1, .scalar 4, false⟩, ⟨2, .str, false⟩],
   .msg [⟨1, .arr (.ref 0), false⟩, ⟨2, .scalar 4, false⟩, ⟨3, .bool, false⟩]]
/-- `Box{evs: [Ev{a: 7, note: "hi"}, Ev{note: "x"}], after: 9, flag: true}` -/
def evVal : Val :=
  .msg [(1, .arr [.msg [(1, .scalar 4 7), (2, .str [104, 105])], .msg [(2, .str [120])]]), (2, .scalar 4 9),
        (3, .scalar 1 1)]

theorem evEnv1_ok : EnvOk evEnv1 := by decide

theorem ev_extends : Extends evEnv1 evEnv2 :=
  ⟨DefExtends.msg_of_mem (by decide), DefExtends.msg_of_mem (by decide), trivial⟩

theorem evVal_wt : wt evEnv2 (.ref 1) evVal := by
  refine ⟨1, _, rfl, rfl, ?_, by decide⟩
  refine ⟨by decide, by decide, ⟨_, rfl, rfl, ?_⟩, by decide, by decide, ⟨_, rfl, rfl, wt_u32⟩, by decide, by decide,
    ⟨_, rfl, rfl, by decide, .inr (.inl ⟨rfl, rfl, by decide⟩)⟩, trivial⟩
  refine ⟨_, rfl, by decide, ⟨?_, ?_, trivial⟩, Or.inl (by decide)⟩
  · refine ⟨0, _, rfl, rfl, ?_, by decide⟩
    exact ⟨by decide, by decide, ⟨_, rfl, rfl, wt_u32⟩, by decide, by decide, ⟨_, rfl, rfl, rfl, by decide⟩, trivial⟩
  · refine ⟨0, _, rfl, rfl, ?_, by decide⟩
    exact ⟨by decide, by decide, ⟨_, rfl, rfl, rfl, by decide⟩, trivial⟩

theorem evVal_stable : TopStable evEnv1 1 evVal := by
  simp [TopStable, evVal, evEnv1, StructsStable, stableFields, stableList]

/-- What the old reader is expected to see: the unknown fields are gone, `after` — which FOLLOWS the array
    of evolved messages — is intact. -/
theorem evVal_restrict :
    restrict evEnv1 (.ref 1) evVal = .msg [(1, .arr [.msg [(1, .scalar 4 7)], .msg []]), (2, .scalar 4 9)] := by rfl

/-- All hypotheses of A and B are satisfiable together, and the conclusion is not the trivial one. -/
example (rest : List Byte) :
    decodeStream 10 evEnv1 1 (enc evVal ++ rest)
      = .ok (.msg [(1, .arr [.msg [(1, .scalar 4 7)], .msg []]), (2, .scalar 4 9)]) (enc evVal).length := by
  rw [← evVal_restrict]
  exact C04_decode_evolved evEnv1 evEnv2 evEnv1_ok ev_extends 1 evVal evVal_wt 10 (by decide) rest

example (safe : Bool) (rest : List Byte) :
    unmarshal 10 evEnv1 safe 1 (enc evVal ++ rest)
      = .ok (.msg [(1, .arr [.msg [(1, .scalar 4 7)], .msg []]), (2, .scalar 4 9)]) := by
  rw [← evVal_restrict]
  exact C04_unmarshal_evolved_partial evEnv1 evEnv2 evEnv1_ok ev_extends 1 evVal safe 10 evVal_wt evVal_stable
    (by decide) rest

/-! ### F. Non-vacuity: a struct that is itself a union branch may hold an evolved message -/

/-- Old: `message Ev {1 -> uint32 a;}  struct Inner {Ev m; uint32 after;}  union U {1 -> Inner; 2 -> Ev;}`
    (the branch records are written as separate definitions; `U` is record 2). -/
def ubEnv1 : Env :=
  [.msg [⟨1, .scalar 4, false⟩], .struct [.ref 0, .scalar 4], .union [(1, 1), (2, 0)]]
/-- New: `Ev` has gained `2 -> uint32 b;`. -/
def ubEnv2 : Env :=
  [.msg [⟨1, .scalar 4, false⟩, ⟨2, .scalar 4, false⟩], .struct [.ref 0, .scalar 4], .union [(1, 1), (2, 0)]]
/-- `Inner{m: Ev{a: 1, b: 2}, after: 3}`: the branch struct, holding an `Ev` with the NEW field set. -/
def ubInner : Val := .struct [.msg [(1, .scalar 4 1), (2, .scalar 4 2)], .scalar 4 3]
/-- `U{Inner: Inner{m: Ev{a: 1, b: 2}, after: 3}}` -/
def ubVal : Val := .union 1 ubInner

theorem ubEnv1_ok : EnvOk ubEnv1 := by decide

theorem ub_extends : Extends ubEnv1 ubEnv2 :=
  ⟨DefExtends.msg_of_mem (by decide), rfl, rfl, trivial⟩

theorem ubVal_wt : wt ubEnv2 (.ref 2) ubVal := ⟨2, _, 1, rfl, rfl, by decide, rfl, inner_wt rfl rfl, by decide⟩

/-- The guard holds: the branch struct `Inner` is the union's member, so only its contents are constrained
    (an `Ev` directly in it — stepped over by its length prefix — and a scalar). -/
theorem ubVal_stable : TopStable ubEnv1 2 ubVal :=
  (structsStable_union ubEnv1 ubInner (n := 2) (d := 1) rfl rfl).mpr (inner_stable rfl rfl)

/-- What the old reader is expected to see: `b` is gone, `after` — which FOLLOWS the evolved message in the
    branch struct — is intact. -/
theorem ubVal_restrict :
    restrict ubEnv1 (.ref 2) ubVal = .union 1 (.struct [.msg [(1, .scalar 4 1)], .scalar 4 3]) := by rfl

/-- A struct that IS a union branch, holding an evolved message followed by another field:
    (a) the value is well-typed under the newer schema;
    (b) the guard `TopStable` holds, ALTHOUGH the branch struct's own size equation fails — the reader's
        `Size()` of the `Inner` it decodes is 14, the struct occupies 19 bytes — so in nested position
        (`StructsStable … (.ref 1)`: a struct field, array element, …) the same `Inner` is excluded;
    (c) both byte-slice decoders of the older schema return the restricted value, `after` intact, whatever
        follows the record in the buffer — by `C04_unmarshal_evolved_partial`: the union decodes its member
        last and nobody advances by the member's `Size()`. -/
theorem C04_union_branch_struct_example (rest : List Byte) :
    wt ubEnv2 (.ref 2) ubVal ∧
    TopStable ubEnv1 2 ubVal ∧
    gsize ubEnv1 (.ref 1) (restrict ubEnv1 (.ref 1) ubInner) ≠ vsize ubInner ∧
    gsize ubEnv1 (.ref 1) (restrict ubEnv1 (.ref 1) ubInner) = 14 ∧ vsize ubInner = 19 ∧
    ¬ StructsStable ubEnv1 (.ref 1) ubInner ∧
    unmarshal 10 ubEnv1 true 2 (enc ubVal ++ rest)
      = .ok (.union 1 (.struct [.msg [(1, .scalar 4 1)], .scalar 4 3])) ∧
    unmarshal 10 ubEnv1 false 2 (enc ubVal ++ rest)
      = .ok (.union 1 (.struct [.msg [(1, .scalar 4 1)], .scalar 4 3])) := by
  have hne : gsize ubEnv1 (.ref 1) (restrict ubEnv1 (.ref 1) ubInner) ≠ vsize ubInner := by decide
  refine ⟨ubVal_wt, ubVal_stable, hne, by decide, by decide, ?_, ?_, ?_⟩
  · intro hs
    exact hne hs.1
  · rw [← ubVal_restrict]
    exact C04_unmarshal_evolved_partial ubEnv1 ubEnv2 ubEnv1_ok ub_extends 2 ubVal true 10 ubVal_wt ubVal_stable
      (by decide) rest
  · rw [← ubVal_restrict]
    exact C04_unmarshal_evolved_partial ubEnv1 ubEnv2 ubEnv1_ok ub_extends 2 ubVal false 10 ubVal_wt ubVal_stable
      (by decide) rest

end Bebop
