/-
  C05 — Stream decoding consumes exactly one record, however reads are chunked.
-/
import Bebop.Props.Common
import Bebop.Proofs.StreamEvolve
import Bebop.Proofs.Chunks

namespace Bebop

/-- DecodeBebop takes from its reader exactly the bytes of one record — `Size()` of them — whatever
    follows on the stream, and returns the value. -/
theorem C05_consumes_exactly (env : Env) (hE : EnvOk env) (n : Nat) (v : Val) (fuel : Nat)
    (h : wt env (.ref n) v) (hf : rank v < fuel + 1) (rest : List Byte) :
    decodeStream (fuel+1) env n (enc v ++ rest) = .ok v (vsize v) := by
  rw [decodeStream_evo hE (Extends.refl env) h (by omega) rest, restrict_self env _ v h, length_enc]

/-- Reading records back-to-back from one stream: decode `ns.length` records one after another, each
    call starting where the previous one stopped. -/
def decodeMany (fuel : Nat) (env : Env) : List Nat → List Byte → Option (List Val × List Byte)
  | [], data => some ([], data)
  | n :: ns, data =>
    match decodeStream fuel env n data with
    | .ok v c =>
      match decodeMany fuel env ns (data.drop c) with
      | some (vs, rest) => some (v :: vs, rest)
      | none => none
    | _ => none

def encMany : List Val → List Byte
  | [] => []
  | v :: vs => enc v ++ encMany vs

/-- Any sequence of records written back-to-back is read back as the same sequence, leaving exactly
    what followed them. -/
theorem C05_sequences (env : Env) (hE : EnvOk env) (fuel : Nat) :
    ∀ (recs : List (Nat × Val)) (rest : List Byte),
      (∀ r ∈ recs, wt env (.ref r.1) r.2 ∧ rank r.2 < fuel + 1) →
      decodeMany (fuel+1) env (recs.map (·.1)) (encMany (recs.map (·.2)) ++ rest) = some (recs.map (·.2), rest)
  | [], rest, _ => rfl
  | (n, v) :: recs, rest, h => by
    have h1 := h (n, v) List.mem_cons_self
    simp only [List.map_cons, decodeMany, encMany, List.append_assoc,
      C05_consumes_exactly env hE n v fuel h1.1 h1.2, ← length_enc, List.drop_left,
      C05_sequences env hE fuel recs rest fun r hr => h r (List.mem_cons_of_mem _ hr)]

/-- However the reader fragments its data, `io.ReadFull` — the only way the decoders read — returns the
    same bytes and leaves the same bytes unread as on the unfragmented stream. -/
theorem C05_chunking_irrelevant (n : Nat) (chunks : List (List Byte)) :
    (readFullChunks n chunks).1 = chunks.flatten.take n ∧
    (readFullChunks n chunks).2.flatten = chunks.flatten.drop n := readFullChunks_flat n chunks

/-- Non-vacuity: two example records back to back followed by garbage. -/
example : decodeMany 21 exEnv [3, 1] (encMany [exVal, exMsg] ++ [1, 2, 3]) = some ([exVal, exMsg], [1, 2, 3]) :=
  C05_sequences exEnv exEnv_ok 20 [(3, exVal), (1, exMsg)] [1, 2, 3] (by
    intro r hr
    simp at hr
    rcases hr with rfl | rfl
    · exact ⟨exVal_wt, by decide⟩
    · exact ⟨exMsg_wt, by decide⟩)

end Bebop
