/-
  C06 — Truncated input is reported as an error, never a crash.

  Proved here: for every cut point of every valid encoding the checked byte-slice decoder returns an
  error (not a value, not a panic, not out of fuel), and the stream decoder does not return a value: its
  error latch is set.  NOT modelled: the amount of memory allocated before the error is noticed (the
  generated code calls make() with a count it has not yet checked); that clause is observed by the
  correspondence harness under resource limits and its failures are listed findings (KF-C06-make-before-check,
  KF-C07-untrusted-count).
-/
import Bebop.Props.C02
import Bebop.Proofs.Trunc
import Bebop.Proofs.StreamTrunc

namespace Bebop

/-- UnmarshalBebop on every strict prefix of a valid encoding returns a non-nil error. -/
theorem C06_unmarshal_prefix_errors (env : Env) (hE : EnvOk env) (n : Nat) (v : Val) (fuel : Nat)
    (h : wt env (.ref n) v) (hf : rank v < fuel + 1) (k : Nat) (hk : k < (enc v).length) :
    unmarshal fuel env true n ((enc v).take k) = .err :=
  unmarshal_prefix_err env hE n v fuel h hf k hk

/-- DecodeBebop on a stream that ends (EOF or I/O error) strictly inside a valid encoding never returns
    a value: the ErrorReader's latch is set and the method returns it. -/
theorem C06_decode_prefix_not_ok (env : Env) (hE : EnvOk env) (n : Nat) (v : Val) (fuel : Nat)
    (h : wt env (.ref n) v) (hf : rank v < fuel + 1) (k : Nat) (hk : k < (enc v).length) :
    ∀ w c, decodeStream (fuel+1) env n ((enc v).take k) ≠ .ok w c := by
  intro w c hcontra
  have hb := strunc_dec env hE (fuel+2) (.ref n) v ⟨(enc v).take k, [], false⟩ h (Nat.lt_succ_of_lt hf)
    (Or.inr ⟨k, rfl, rfl, hk, by simp⟩)
  rw [sdec_ref] at hb
  simp only [decodeStream] at hcontra
  split at hcontra
  · -- a value: the latch, clear at the start, is still clear; but the stream ended inside the record
    rename_i hr
    rw [hr] at hb
    rcases hb with hb | hb
    · cases hb
    · exact Bool.false_ne_true ((sdecRecord_val hr rfl).symm.trans hb)
  · cases hcontra
  · cases hcontra

/-- Non-vacuity: every one of the 94 cut points of the example encoding. -/
example (k : Nat) (hk : k < 94) : unmarshal 20 exEnv true 3 ((enc exVal).take k) = .err :=
  C06_unmarshal_prefix_errors exEnv exEnv_ok 3 exVal 20 exVal_wt (by decide) k
    (by rw [length_enc, show vsize exVal = 94 by decide]; exact hk)

/-- `C02_enum_sizes_as_modelled`, stated for this property too: the length checks that make a truncated enum field
    an error instead of an index panic rest on it. -/
theorem C06_enum_sizes_as_modelled : Facts.enumFixedSizeRule = "base-width" := C02_enum_sizes_as_modelled

end Bebop
