/-
  C07 — Decoding arbitrary bytes never panics or runs away.

  Proved: on ANY byte string, for ANY schema, the checked byte-slice decoder does not panic (every read is
  covered by a length check, and every cursor jump `at += Size()` / `at += length prefix` stays inside
  the buffer — the invariant is that a decoder that returns a value has advanced by at least Size() of
  it, where Size() is the generated one, `gsize`, which does not count the fields marked deprecated).  The stream decoder has no unchecked access at all: every read goes through io.ReadFull, and the
  model is a total function of the stream.
  NOT proved (observed by the harness, listed findings): the memory requested by make() from an
  unchecked count, and loops whose length is a count of zero-size elements (KF-C06-make-before-check,
  KF-C07-untrusted-count).
  Maps keyed by float32/float64 whose values are arrays, maps or records: the decoders of the pinned commit
  filled such a value by reading it back out of the map, and `m[NaN]` finds nothing; the model stores the decoded
  value, which is what the code does since 07924b4 (FX-C01-nan-map-key).
-/
import Bebop.Props.Common
import Bebop.Proofs.NoPanic
import Bebop.Proofs.FuelMono
import Bebop.Proofs.StreamFuelMono

namespace Bebop

/-- UnmarshalBebop never panics: any schema, any record, any bytes, any fuel. -/
theorem C07_unmarshal_never_panics (env : Env) (fuel n : Nat) (buf : List Byte) :
    unmarshal fuel env true n buf ≠ .panic := unmarshal_no_panic env fuel n buf

/-- The same for a record decoded in nested position (array element, field, map value). -/
theorem C07_nested_never_panics (env : Env) (fuel : Nat) (ty : Ty) (buf : List Byte) :
    dec fuel env true ty buf ≠ .panic := (dec_safe [] env fuel ty buf).ne_panic

/-- and whenever it returns a value, the bytes it consumed cover that value's Size() — the generated
    `Size()`, `gsize env ty`, which skips deprecated fields (a decoded value may hold some: the bytes
    consumed then exceed `Size()`, they are never fewer). -/
theorem C07_advance_covers_size (env : Env) (fuel : Nat) (ty : Ty) (buf rest : List Byte) (v : Val)
    (h : dec fuel env true ty buf = .ok (v, rest)) : rest.length + gsize env ty v ≤ buf.length :=
  ((dec_safe [] env fuel ty buf).of_ok h).1

/-- The fuel argument is an artefact of the model (Go's decoders have none): two runs that both finish
    — with a value, an error, or a panic — give the same answer, whatever fuel each was given.  So the
    theorems above, stated for any fuel, describe one function of (schema, bytes). -/
theorem C07_answer_independent_of_fuel (env : Env) (f g : Nat) (safe : Bool) (n : Nat) (buf : List Byte)
    (hf : unmarshal f env safe n buf ≠ .fuel) (hg : unmarshal g env safe n buf ≠ .fuel) :
    unmarshal f env safe n buf = unmarshal g env safe n buf := by
  rcases Nat.le_total f g with h | h
  · exact (unmarshal_fuel_mono env f g h safe n buf hf).symm
  · exact unmarshal_fuel_mono env g f h safe n buf hg

/-- and an answer reached with some fuel is the answer for every larger fuel (nested position too). -/
theorem C07_more_fuel_same_answer (env : Env) (f g : Nat) (hfg : f ≤ g) (safe : Bool) (ty : Ty)
    (buf : List Byte) (h : dec f env safe ty buf ≠ .fuel) :
    dec g env safe ty buf = dec f env safe ty buf := dec_fuel_mono env f g hfg safe ty buf h

/-- Non-vacuity: the hostile buffer below is answered at fuel 20 (and hence at every larger fuel), while
    fuel 3 is not enough — the hypothesis is needed. -/
example : (unmarshal 3 exEnv true 3 [255, 255, 255, 255, 2, 0, 0, 0, 0, 2, 255, 255, 255, 127]).isFuel = true := by
  decide
example : (unmarshal 20 exEnv true 3 [255, 255, 255, 255, 2, 0, 0, 0, 0, 2, 255, 255, 255, 127]).isFuel = false := by
  decide

/-- The same for the stream decoder (`DecodeBebop`): the model's fuel never changes an answer — a value with
    the bytes consumed, or an error with the bytes consumed — other than out-of-fuel. -/
theorem C07_stream_answer_independent_of_fuel (env : Env) (f g : Nat) (n : Nat) (data : List Byte)
    (hf : (decodeStream f env n data).isFuel = false) (hg : (decodeStream g env n data).isFuel = false) :
    decodeStream f env n data = decodeStream g env n data := by
  rcases Nat.le_total f g with h | h
  · exact (decodeStream_fuel_mono env f g h n data hf).symm
  · exact decodeStream_fuel_mono env g f h n data hg

/-- Non-vacuity: the stream decoder answers the hostile buffer at fuel 20, not at fuel 1. -/
example : (decodeStream 20 exEnv 3 [255, 255, 255, 255, 2, 0, 0, 0, 0, 2, 255, 255, 255, 127]).isFuel = false := by
  decide
example : (decodeStream 1 exEnv 3 [255, 255, 255, 255, 2, 0, 0, 0, 0, 2, 255, 255, 255, 127]).isFuel = true := by
  decide

/-- The unchecked variant is exempt; and it really does panic, e.g. on the empty buffer. -/
example : (unmarshal 5 exEnv false 0 []).isPanic = true := by decide

/-- Non-vacuity: a hostile buffer for the example schema (huge counts, lying length prefixes). -/
example : unmarshal 20 exEnv true 3 [255, 255, 255, 255, 2, 0, 0, 0, 0, 2, 255, 255, 255, 127] ≠ .panic :=
  C07_unmarshal_never_panics _ _ _ _

end Bebop
