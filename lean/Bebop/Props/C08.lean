/-
  C08 — I/O failures during encode or decode always surface as errors.
-/
import Bebop.Props.C06

namespace Bebop

/-- For every pattern of failing Write calls (`okAt j = false`: the j-th call of the underlying writer
    returns an error): EncodeBebop returns nil if and only if none of the calls it made failed. -/
theorem C08_encode_nil_iff_no_failure (okAt : Nat → Bool) (v : Val) :
    (encodeStream okAt v).2 = false ↔ ∀ j, j < (encodeStream okAt v).1.k → okAt j = true :=
  (encodeStream_spec okAt v).1

/-- An EncodeBebop that returns nil has written exactly the bytes of MarshalBebop. -/
theorem C08_encode_nil_wrote_everything (okAt : Nat → Bool) (v : Val)
    (hnil : (encodeStream okAt v).2 = false) :
    some (encodeStream okAt v).1.out = marshal v := by
  rw [C02_marshal_eq_enc, (encodeStream_spec okAt v).2 hnil]

/-- Reader side: whatever the byte offset `k` inside the record at which the reader fails, and whatever
    the error (EOF and I/O errors are the same to io.ReadFull: the read that hits it fails), DecodeBebop
    does not return a value. -/
theorem C08_decode_reader_failure (env : Env) (hE : EnvOk env) (n : Nat) (v : Val) (fuel : Nat)
    (h : wt env (.ref n) v) (hf : rank v < fuel + 1) (k : Nat) (hk : k < (enc v).length) :
    ∀ w c, decodeStream (fuel+1) env n ((enc v).take k) ≠ .ok w c :=
  C06_decode_prefix_not_ok env hE n v fuel h hf k hk

/-- The latch is sticky: once a read has failed nothing the decoders do clears it. -/
theorem C08_latch_sticky (env : Env) (f : Nat) (ty : Ty) (s : RState) (h : s.err = true) :
    (sdec f env ty s).2.err = true := sdec_sticky env f ty s h

/-- Non-vacuity: the third Write call fails → non-nil; no call fails → nil with all 94 bytes. -/
example : (encodeStream (fun j => j != 2) exVal).2 = true := by decide
example : (encodeStream (fun _ => true) exVal).2 = false ∧ (encodeStream (fun _ => true) exVal).1.out.length = 94 := by
  decide

end Bebop
