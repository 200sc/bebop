/-
  C09 — Generator options never change what goes on the wire.

  In the model the five options do not exist: pointer receivers, private names, field tags and the
  shared-memory string reader select between templates that denote the same action, and the model has
  one action per class. What the options DO select is recorded in Bebop.Generated.Facts
  (`optionTemplateClasses`, regenerated from gen_templates.go / gen.go): for every option-dependent
  choice the class of each alternative. The theorem below about those facts is re-checked on every run,
  so an alternative that stops denoting the same action breaks it.  That all 2^5 emitted variants
  compile and behave identically is observed by the correspondence harness, which enumerates all 32.
-/
import Bebop.Props.Common
import Bebop.Proofs.RoundTrip

namespace Bebop

/-- Every option-dependent template choice stays inside one semantic class. -/
theorem C09_option_choices_same_class :
    ∀ c ∈ Facts.optionTemplateClasses, ∀ alt ∈ c.2, alt = c.1 := by decide

/-- Where MustUnmarshalBebop is generated it agrees with UnmarshalBebop on every valid encoding
    (with anything following it). -/
theorem C09_must_agrees_with_unmarshal (env : Env) (hE : EnvOk env) (n : Nat) (v : Val) (fuel : Nat)
    (h : wt env (.ref n) v) (hf : rank v < fuel + 1) (rest : List Byte) :
    unmarshal fuel env false n (enc v ++ rest) = unmarshal fuel env true n (enc v ++ rest) := by
  rw [unmarshal_enc env hE n v false fuel h hf rest, unmarshal_enc env hE n v true fuel h hf rest]

/-- Non-vacuity. -/
example : unmarshal 20 exEnv false 3 (enc exVal ++ [7]) = unmarshal 20 exEnv true 3 (enc exVal ++ [7]) :=
  C09_must_agrees_with_unmarshal exEnv exEnv_ok 3 exVal 20 exVal_wt (by decide) [7]

end Bebop
