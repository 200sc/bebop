/-
  C10 — ReadFile always terminates and never silently drops part of a schema.

  `readFile inp ioFail` (Bebop.Text.Parser) models bebop.ReadFile on a reader that delivers the bytes `inp`
  and then ends with EOF (`ioFail = false`) or with a persistent I/O error (`ioFail = true`), over the
  tokenizer model (bufio ReadByte / UnreadByte / ReadRune / ReadBytes).

  Proved for ALL inputs and both endings:
  * the tokenizer never panics (every UnreadByte directly follows a successful ReadByte) and so ReadFile
    never panics;
  * ReadFile reports success only if the reader ended with EOF and every byte of the input was consumed —
    in particular an I/O error of the reader always surfaces as an error, and nothing after the last
    definition (an unterminated comment, a stray character) can be dropped silently.
  * the fuel of the tokenizer's helper loops is irrelevant (`C10_tokenizer_fuel_irrelevant`): with the fuel
    the callers pass the fuel-0 branches are never reached, any larger fuel gives the same result.
  Termination: the model is a total function (structural recursion on fuel), and the fuel `2·|input| + 4`
  that `readFile` supplies is never exhausted (`C10_readFile_terminates`). Identifiers containing non-ASCII
  letters are outside the model (it answers `declined`).
  The "append one more definition" form of the statement is the direct oracle the text engine runs on every
  accepted input.
-/
import Bebop.Proofs.Parser
import Bebop.Proofs.TokenizerFuel

namespace Bebop.Text

/-- The tokenizer never panics: `Next` keeps `unreadByte` legal. -/
theorem C10_tokenizer_never_panics (t : TR) (h : t.panicked = false) : (next t).2.panicked = false :=
  (next_fwd t).pan h

/-- ReadFile never panics, for any bytes and any reader ending. -/
theorem C10_readFile_never_panics (inp : List Byte) (ioFail : Bool) :
    (match readFile inp ioFail with | .panic => False | _ => True) := by
  have h := readFile_spec inp ioFail
  cases hr : readFile inp ioFail <;> rw [hr] at h <;> first | trivial | exact h

/-- Success means the reader ended with EOF and the whole input was consumed by the tokenizer. -/
theorem C10_success_means_all_consumed (inp : List Byte) (ioFail : Bool) (file : File)
    (h : readFile inp ioFail = .ok file) :
    ioFail = false ∧ ∃ t', readFileLoop (2 * inp.length + 4) (2 * inp.length + 4) {} (mkTR inp ioFail) = .ok file t' ∧
      t'.inp = [] := by
  have hs := readFile_spec inp ioFail
  rw [h] at hs
  exact hs

/-- If the reader fails with an I/O error — after any number of bytes — ReadFile does not report success. -/
theorem C10_reader_error_surfaces (inp : List Byte) (file : File) : readFile inp true ≠ .ok file := by
  intro h
  cases (C10_success_means_all_consumed inp true file h).1

/-- `Next` returns false with a clean error list only at the clean end of the input. -/
theorem C10_next_stops_only_at_eof (t : TR) (hf : (next t).1 = false) (he : (next t).2.errs = [])
    (hn : (next t).2.nonAscii = false) (hp : (next t).2.panicked = false) :
    (next t).2.inp = [] ∧ (next t).2.ioFail = false := next_false_clean t hf he hn hp

/-- Non-vacuity of the success hypothesis, on inputs that reach no keyword lookup (schemas with definitions:
    the `readFile` examples of Props/Canon.lean, and the correspondence run). -/
example : ∃ f, readFile [] false = .ok f := ⟨_, rfl⟩
example : ∃ f, readFile [32, 9, 13] false = .ok f := ⟨_, rfl⟩

/-- ReadFile terminates: with the fuel the model supplies itself, no loop of the parser runs out of fuel, for
    every input and both reader behaviours (every loop iteration contains a checked `Next` that consumed input;
    `UnNext` happens at most once between two of them). -/
theorem C10_readFile_terminates (inp : List Byte) (ioFail : Bool) : readFile inp ioFail ≠ .fuel := by
  intro h
  have hs := readFile_spec inp ioFail
  rw [h] at hs
  exact hs

/-- The tie of the tokenizer model to tokenize.go's token tree: every `tt.add` of the regenerated table is
    either a one-byte simple terminal (which the model reads from the table itself) or one of the multi-byte /
    builder entries the model hard-codes, in the same order; the skipped bytes are space, tab and CR; every
    keyword of the regenerated table has a token kind in the model. -/
theorem C10_token_tree_as_modelled :
    Facts.tokenTreeAdds.filter (fun e => (simpleKindOfName e.2).isNone || e.1.length != 1) = multiByteShape ∧
    Facts.tokenTreeSkips = [32, 9, 13] ∧
    Facts.keywordTable.all (fun e => (keywordKind (strOf e.1)).isSome) = true := by
  refine ⟨by decide +kernel, by decide +kernel, by decide +kernel⟩

/-- The fuel of the tokenizer's helper loops is only a termination device: with the fuel the callers pass
    (input length + 1; for the token loop, anything above the measure `mu`) the fuel-0 branches are never
    reached — any larger fuel gives the same result. One conjunct per fuelled loop of the tokenizer model, then
    `Next` as a whole (`nextWithFuel extra` is `next` with `extra` more fuel in both loops it calls) and the
    token loop from a fresh reader with the fuel the driver passes. -/
theorem C10_tokenizer_fuel_irrelevant :
    (∀ f t, t.inp.length < f → findFirst f t = findFirst (t.inp.length + 1) t) ∧
    (∀ f t conc k a b c d, t.inp.length < f →
      numberLoop f t conc k a b c d = numberLoop (t.inp.length + 1) t conc k a b c d) ∧
    (∀ f t, t.inp.length < f → skipWs f t = skipWs (t.inp.length + 1) t) ∧
    (∀ f t conc lastB, t.inp.length < f → blockLoop f t conc lastB = blockLoop (t.inp.length + 1) t conc lastB) ∧
    (∀ f t conc esc, t.inp.length < f → stringLoop f t conc esc = stringLoop (t.inp.length + 1) t conc esc) ∧
    (∀ f t conc, t.inp.length < f → identLoop f t conc = identLoop (t.inp.length + 1) t conc) ∧
    (∀ f t acc, mu t < f → allTokens f t acc = allTokens (mu t + 1) t acc) ∧
    (∀ extra t, nextWithFuel extra t = next t) ∧
    (∀ f inp io, 2 * inp.length < f →
      allTokens f (mkTR inp io) [] = allTokens (2 * inp.length + 4) (mkTR inp io) []) :=
  ⟨fun _ t h => findFirst_fuel_stable _ _ t h (Nat.lt_succ_self _),
   fun _ t _ _ _ _ _ _ h => by rw [numberLoop_fuel_stable _ _ t h (Nat.lt_succ_self _)],
   fun f t h => skipWs_call_fuel t f h,
   fun _ t _ _ h => by rw [blockLoop_fuel_stable _ _ t h (Nat.lt_succ_self _)],
   fun _ t _ _ h => by rw [stringLoop_fuel_stable _ _ t h (Nat.lt_succ_self _)],
   fun _ t _ h => by rw [identLoop_fuel_stable _ _ t h (Nat.lt_succ_self _)],
   fun _ t _ h => by rw [allTokens_fuel_stable _ _ t h (Nat.lt_succ_self _)],
   next_fuel_irrelevant,
   fun _ _ _ h => congrFun (allTokens_fuel_stable _ _ _ (by simpa [mu, mkTR] using h) (by simp [mu, mkTR])) _⟩

/-- The wrappers are their loops with any sufficient fuel. -/
theorem C10_token_builders_fuel_irrelevant (t : TR) (conc : List Byte) (f : Nat) (h : t.inp.length < f) :
    numberLoop f t conc .intLit true false false false = numberToken t conc ∧
    blockLoop f t conc 0 = blockCommentToken t conc ∧
    stringLoop f t conc false = stringLiteralToken t conc :=
  ⟨by rw [numberLoop_fuel_stable _ _ t h (Nat.lt_succ_self _)]; rfl,
   by rw [blockLoop_fuel_stable _ _ t h (Nat.lt_succ_self _)]; rfl,
   by rw [stringLoop_fuel_stable _ _ t h (Nat.lt_succ_self _)]; rfl⟩

end Bebop.Text
