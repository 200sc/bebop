/-
  C11  The parsed File says exactly what the schema text says.

  The full statement is `C11_statement` below: for every schema AST of the Spec (Bebop.Text.Grammar) and every
  permitted layout, the parser returns exactly the File the AST denotes. It is NOT proved in this generality
  (see DESIGN.md §7 and §12); it is decided on generated ASTs × layouts by the correspondence engine, for the
  real ReadFile and for the model. What is proved:
  * the value-carrying parts of the parser agree with the Spec for all inputs: integer literals of enum values,
    indices and opcodes (both directions), evaluated [flags] expressions, four-character opcodes;
  * the token tree and keyword table the tokenizer model uses are the regenerated ones;
  * the parser-inverts-printer theorem for the sub-language of Bebop/Props/Canon.lean, for any number of
    definitions, fields, members and any identifiers, under every layout `LayoutOk` admits
    (`C11_parser_returns_denoted_file_partial` below).
-/
import Bebop.Props.C15
import Bebop.Props.C10
import Bebop.Props.Canon

namespace Bebop.Text

/-- The property at full strength (a definition, not a theorem). -/
def C11_statement : Prop :=
  ∀ (layout : Nat → Nat) (src : SrcFile) (f : File), toFile src = some f →
    readFile (print layout src) false = .ok f

/-- Enum values, message indices and integer opcodes: what the parser computes with Go's strconv is the
    Spec's value of the literal, for every width. -/
theorem C11_integer_literals_partial (t : Str) (bits : Nat) (hc : CanonicalLit t) :
    (∀ n, parseUint t true bits = some n → litValue t = some (n : Int)) ∧
    (∀ v, NoPlus t → parseInt t true bits = some v → litValue t = some v) :=
  ⟨fun n h => (C15_uint_literal_value t bits n hc h).1, fun v hp h => (C15_int_literal_value t bits v hc hp h).1⟩

/-- Evaluated [flags] expressions: the value stored in the File is the Spec's value of the expression
    (under the in-range guard of C15). -/
theorem C11_flags_values_partial (bits : Nat) (unsigned : Bool) (hb : bits ∈ [8, 16, 32, 64])
    (opts : List EnumOption) (env : List (Str × Int)) (ha : EnvAgrees unsigned opts env)
    (e : Expr) (ho : OpsOk e) (hr : AllInRange bits unsigned env (toSpec e)) (v : Int)
    (hv : specEval env (toSpec e) = some v) : evalExpr bits unsigned opts e = some v :=
  C15_flags_value_partial bits unsigned hb opts env ha e ho hr v hv

/-- The tokenizer model's tables are the ones in tokenize.go now. -/
theorem C11_tokenizer_tables_partial :
    Facts.tokenTreeAdds.filter (fun e => (simpleKindOfName e.2).isNone || e.1.length != 1) = multiByteShape ∧
    Facts.tokenTreeSkips = [32, 9, 13] ∧
    Facts.keywordTable.all (fun e => (keywordKind (strOf e.1)).isSome) = true :=
  C10_token_tree_as_modelled

/-! ### The parser inverts the printer (Bebop/Props/Canon.lean)

  `CFile` is a schema AST covering: structs (readonly, opcode, deprecated fields, doc comments — tag comments
  among them — trailing comments), every field type (`T`, `T[]…`, `array[T]`, `map[K, V]`, nested), messages,
  enums (typed base, decimal / hex / negative values, `[flags]` with expressions over literals, earlier members,
  `|`, `&`, `<<`, `>>`, parentheses), unions with nested struct / message bodies, integer / float / inf / nan /
  bool / string / guid consts (incl. go_package), imports, mixed in any order, any number of definitions, fields
  and members, any identifiers. `denote f` is the File it denotes; `laidOutF w f` its text under a layout `w`:
  an arbitrary run of spaces / tabs / CRs before every token, non-empty wherever the canonical text has a blank
  (`LayoutOk`; the underlying `Canon.readFile_laid` needs a blank only where two tokens would run together);
  `canonTextF f` is the formatter's layout. Outside the sub-language: block comments, trailing comments other
  than after struct fields (and, for the parser theorem only, message fields), string literals with escapes,
  blank lines and other ways of breaking lines. -/

/-- For every schema of the sub-language and every layout of its text that `LayoutOk` admits, ReadFile (model)
    returns exactly the File the schema denotes: every definition, field, type expression, index, enum value,
    const, import, opcode, readonly marker, deprecation and doc comment, attached where it belongs, in source
    order — and the result does not depend on horizontal whitespace or CRLF line ends. -/
theorem C11_parser_returns_denoted_file_partial (f : CFile) (hf : CFileOk f) (w : Nat → List Byte)
    (hw : LayoutOk w (fileLex false f)) : readFile (laidOutF w f) false = .ok (denote f) :=
  C11_schema_layout_partial f hf w hw

/-- Layout independence as a statement about two layouts of the same schema. -/
theorem C11_layout_independent_partial (f : CFile) (hf : CFileOk f) (w₁ w₂ : Nat → List Byte)
    (h₁ : LayoutOk w₁ (fileLex false f)) (h₂ : LayoutOk w₂ (fileLex false f)) :
    readFile (laidOutF w₁ f) false = readFile (laidOutF w₂ f) false := by
  rw [C11_schema_layout_partial f hf w₁ h₁, C11_schema_layout_partial f hf w₂ h₂]

end Bebop.Text
