/-
  C12  Whatever the compiler accepts, it turns into Go code that compiles.

  "Compiles" is a fact about the Go type checker applied to text produced by string templates; no model of
  Go's type system is attempted. What is proved is the mechanism the property names: Validate is the gate,
  and the template tables contain an entry for every type name Validate lets through.
  * C12_template_tables_total: each of the five template tables of gen_templates.go (REGENERATED key structure)
    has an entry for every primitive type name and ranges over every collection of user definitions.
  * C12_every_field_type_has_a_template: for every File the validator model accepts, every type name used in
    a struct or message field (at any depth of arrays and maps) is a primitive or a definition of the file,
    i.e. a key of every table.
  The rest (no unused variable, no missing import, every record type implements bebop.Record, for every option
  set) is decided by the gencheck engine with go/types on generated schemas; see DESIGN.md.
-/
import Bebop.Proofs.Validate
import Bebop.Generated.TemplateFacts

namespace Bebop.Text

def requiredSources : List String :=
  ["Enums", "Structs", "Messages", "Unions", "UnionName", "UnionStructBranch", "UnionMessageBranch"]

/-- The five tables exist, each has an entry for every primitive type name of primitive.go, and each ranges
    over enums, structs, messages, unions and the records declared inside union branches. -/
theorem C12_template_tables_total :
    TemplateFacts.tables.map (·.1) =
      ["typeUnmarshallers", "typeMarshallers", "typeLengthers", "typeByters", "typeByteReaders"] ∧
    TemplateFacts.tables.all (fun t =>
      Facts.primitiveTypeNames.all (fun p => t.2.1.contains p) && requiredSources.all (fun s => t.2.2.contains s)) = true := by
  constructor <;> decide +kernel

/-- The keys such a table has for the file `f` (imported definitions are appended to the file before). -/
def tableKeys (f : File) : List Str := defNames f ++ Facts.primitiveTypeNames.map strOf

/-- Validate is the gate: in an accepted file every type name occurring in a struct or message field has an
    entry in every template table. -/
theorem C12_every_field_type_has_a_template (f : File) (h : validate f = .ok) :
    (∀ s ∈ f.structs, ∀ fd ∈ s.fields, ∀ n ∈ usedTypesFT fd.ft, n ∈ tableKeys f) ∧
    (∀ m ∈ f.messages, ∀ p ∈ m.fields, ∀ n ∈ usedTypesFT p.2.ft, n ∈ tableKeys f) :=
  have a := validate_ok f h
  ⟨fun s hs fd hfd => typeDefined_used _ fd.ft (a.structTypes s hs fd hfd),
   fun m hm p hp => typeDefined_used _ p.2.ft (a.messageTypes m hm p hp)⟩

end Bebop.Text
