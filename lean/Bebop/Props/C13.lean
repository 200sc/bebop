/-
  C13 — File.Validate accepts no schema that has a semantic error.

  `validate f` (Bebop.Text.Validate) models File.Validate, the gate every schema passes before any Go text is
  generated; `hasSemErr f cls` is the Spec of "the file has a semantic error of class `cls`".

  Proved for ALL files: if `validate f = .ok` then `f` has
  * no two definitions with the same name, no definition named like a primitive type,
  * no two constants with the same name, no struct / message with two fields of the same name,
  * no enum with two options of the same name or of the same value,
  * no two definitions with the same non-zero opcode,
  * no struct or message field whose type is undefined.

  Infinite (self-containing) structs: `validate` computes a transitive closure of "struct a uses type b" by
  a fuel-bounded fixpoint and rejects if some struct uses itself. The fuel `bound` of the loop always suffices, so
  the computed table is closed under one more sweep (`closure_spec`); `C13_no_infinite_struct` proves the
  exclusion from that, for every accepted file, and with it the ten-class statement `C13_validate_ok_no_sem_err`.
  `C13_closure_stable` states the closedness as a decidable certificate, `closureStable f = true` for EVERY file
  (the engine also evaluates it on every file it runs); `C13_no_infinite_struct_partial` and
  `C13_no_infinite_struct_of_stable` are `C13_no_infinite_struct` with that certificate as a hypothesis it does
  not need.

  Direction: only "accepted ⇒ no semantic error" is proved. The converse (every rejected file has one of
  these errors) is not claimed: `validate` also rejects e.g. two union branches with the same name, and a
  struct that reaches itself through an array or map (`usedTypesFT` looks inside them, `directlyContains`
  does not), neither of which is a `SemErr` class of the Spec.
-/
import Bebop.Proofs.Validate

namespace Bebop.Text

/-- Struct names of an accepted file are pairwise different (a consequence of `dupDefName`). -/
theorem C13_struct_names_distinct (f : File) (h : validate f = .ok) : dupIn (f.structs.map (·.name)) = false := by
  have hn := (dupIn_eq_false_iff _).1 (validate_ok f h).defs
  simp only [defNames, List.nodup_append] at hn
  exact (dupIn_eq_false_iff _).2 hn.1.1.2.1

/-- An accepted file has no struct that contains itself, directly or through other structs: the usage
    table `validate` computed is closed (`closure_spec`) and no row contains its own key. -/
theorem C13_no_infinite_struct (f : File) (h : validate f = .ok) : hasSemErr f .infiniteStruct = false := by
  obtain ⟨hst, F, hF, hu⟩ := closure_spec (usage0Of f)
  simp only [hasSemErr, List.any_eq_false, Bool.not_eq_true]
  intro s hs
  have hp : F (s.name, usedTypesStruct s) ∈ closeUsage (usage0Of f) := hu ▸ List.mem_map_of_mem (List.mem_map_of_mem hs)
  simpa only [(hF _).1] using
    reachesSelf_false hF hu hst (validate_ok f h).noSelf _ _ hp _ (.inl (hF _).1.symm)

/-- The conditional form: under the certificate `closureStable f` and distinct struct names. Neither hypothesis
    is needed: `hs` holds of every file (`C13_closure_stable`), `_hn` of every accepted one
    (`C13_struct_names_distinct`). -/
theorem C13_no_infinite_struct_partial (f : File) (h : validate f = .ok) (hs : closureStable f = true)
    (_hn : dupIn (f.structs.map (·.name)) = false) : hasSemErr f .infiniteStruct = false :=
  C13_no_infinite_struct f h

/-- The fuel of the usage fixpoint always suffices: for every file the computed table is closed under one
    more sweep and extends the direct-usage table. -/
theorem C13_closure_stable (f : File) : closureStable f = true := closureStable_always f

/-- A schema that File.Validate accepts has no semantic error of any class of the Spec. -/
theorem C13_validate_ok_no_sem_err (f : File) (h : validate f = .ok) (cls : SemErr) : hasSemErr f cls = false := by
  have a := validate_ok f h
  cases cls with
  | dupDefName => exact a.defs
  | primitiveName => exact any_false a.prim
  | dupConstName => exact a.consts
  | dupFieldName => rw [hasSemErr, any_false a.structs, any_false a.messages]; rfl
  | dupOptionName => exact any_false fun e he => (a.enums e he).1
  | dupOptionValue => exact any_false fun e he => (a.enums e he).2
  | dupOpCode => exact a.ops
  | undefinedStructFieldType =>
    exact any_false fun s hs => any_false fun fd hfd => by rw [a.structTypes s hs fd hfd]; rfl
  | undefinedMessageFieldType =>
    exact any_false fun m hm => any_false fun p hp => by rw [a.messageTypes m hm p hp]; rfl
  | infiniteStruct => exact C13_no_infinite_struct f h

/-! The classes one by one, as the check registers them. -/

theorem C13_no_dup_def_name (f : File) (h : validate f = .ok) : hasSemErr f .dupDefName = false :=
  C13_validate_ok_no_sem_err f h _
theorem C13_no_primitive_name (f : File) (h : validate f = .ok) : hasSemErr f .primitiveName = false :=
  C13_validate_ok_no_sem_err f h _
theorem C13_no_dup_const_name (f : File) (h : validate f = .ok) : hasSemErr f .dupConstName = false :=
  C13_validate_ok_no_sem_err f h _
theorem C13_no_dup_field_name (f : File) (h : validate f = .ok) : hasSemErr f .dupFieldName = false :=
  C13_validate_ok_no_sem_err f h _
theorem C13_no_dup_option_name (f : File) (h : validate f = .ok) : hasSemErr f .dupOptionName = false :=
  C13_validate_ok_no_sem_err f h _
theorem C13_no_dup_option_value (f : File) (h : validate f = .ok) : hasSemErr f .dupOptionValue = false :=
  C13_validate_ok_no_sem_err f h _
theorem C13_no_dup_opcode (f : File) (h : validate f = .ok) : hasSemErr f .dupOpCode = false :=
  C13_validate_ok_no_sem_err f h _
theorem C13_no_undefined_struct_field_type (f : File) (h : validate f = .ok) :
    hasSemErr f .undefinedStructFieldType = false :=
  C13_validate_ok_no_sem_err f h _
theorem C13_no_undefined_message_field_type (f : File) (h : validate f = .ok) :
    hasSemErr f .undefinedMessageFieldType = false :=
  C13_validate_ok_no_sem_err f h _

/-- A schema that File.Validate accepts has none of the nine order-independent semantic errors. -/
theorem C13_validate_ok_excludes (f : File) (h : validate f = .ok) :
    hasSemErr f .dupDefName = false ∧ hasSemErr f .primitiveName = false ∧ hasSemErr f .dupConstName = false ∧
    hasSemErr f .dupFieldName = false ∧ hasSemErr f .dupOptionName = false ∧ hasSemErr f .dupOptionValue = false ∧
    hasSemErr f .dupOpCode = false ∧ hasSemErr f .undefinedStructFieldType = false ∧
    hasSemErr f .undefinedMessageFieldType = false := by
  refine ⟨?_, ?_, ?_, ?_, ?_, ?_, ?_, ?_, ?_⟩ <;> exact C13_validate_ok_no_sem_err f h _

theorem C13_no_infinite_struct_of_stable (f : File) (h : validate f = .ok) (_hs : closureStable f = true) :
    hasSemErr f .infiniteStruct = false :=
  C13_no_infinite_struct f h

/-! ### Non-vacuity -/

private def exField (ft : FT) (n : String) : Field :=
  { ft := ft, name := strOf n, comment := [], tags := [], depMsg := [], deprecated := false }

/-- `struct A { int32 x; }  message B { 1 -> A[] a; }` with opcodes 1 and 2. -/
private def exGood : File :=
  { structs := [{ name := strOf "A", fields := [exField (.simple (strOf "int32")) "x"], opCode := 1 }],
    messages := [{ name := strOf "B", fields := [(1, exField (.arr (.simple (strOf "A"))) "a")], opCode := 2 }] }

/-- `struct A { B b; }  struct B { A a; }` -/
private def exLoop : File :=
  { structs := [{ name := strOf "A", fields := [exField (.simple (strOf "B")) "b"] },
                { name := strOf "B", fields := [exField (.simple (strOf "A")) "a"] }] }

/-- the hypothesis `validate f = .ok` is satisfiable … -/
example : validate exGood = .ok := by rfl
/-- … and `validate` does reject: the Spec sees the cycle and so does the model. -/
example : hasSemErr exLoop .infiniteStruct = true ∧ (validate exLoop == .ok) = false := by
  constructor <;> rfl

end Bebop.Text
