/-
  C14  Parsing, validating, generating and formatting are pure and repeatable.

  What a theorem can carry here, and what it cannot:
  * "leave the File they were given unchanged": File.Generate has a value receiver, but the copy's slices
    share the caller's backing arrays. The extractor lists Generate's stores into the receiver copy
    (PurityFacts.generateEvents, regenerated from gen.go every run); `C14_generate_never_writes_callers_arrays`
    proves on the Go slice model that with that event list no backing array that existed before the call is
    written, whatever is appended.
  * "does not depend on map iteration order": the extractor lists every `range` over a map in the generator
    sources with a syntactic class; `C14_no_order_sensitive_map_range` re-checks that none is order-sensitive,
    `C14_sorted_emission_order_independent` proves that collect-then-sort yields one result for every
    iteration order.
  * byte-identical repeated / concurrent results and freedom from data races are facts of the runtime: the
    purity engine (built with -race) observes them; no theorem here speaks about them.
-/
import Bebop.Proofs.Purity

namespace Bebop.Props.C14
open Bebop.Purity

/-- The stores of File.Generate into its receiver copy are: clip each slice first, append afterwards. -/
theorem C14_generate_clips_before_appending : eventsSafe generateEvents [] = true := by decide

/-- For every field of the File, every heap of backing arrays, every slice header the caller may hold
    (spare capacity or not) and every data appended by Generate: no array that existed before the call
    changes. -/
theorem C14_generate_never_writes_callers_arrays (field : String) (data : Nat → List Nat) (h : Heap) (s : Slice) :
    ∀ i, i < h.length → (runField field generateEvents data 0 h s).1[i]? = h[i]? :=
  runField_frame field generateEvents [] data h.length 0 h s C14_generate_clips_before_appending (Nat.le_refl _) nofun

/-- Why the clip matters: with spare capacity, an unclipped append writes into the caller's array. -/
theorem C14_unclipped_append_writes_callers_array :
    ∃ (h : Heap) (s : Slice), (appendAll h s [9]).1[0]? ≠ h[0]? :=
  ⟨[[1, 2, 0]], { arr := 0, off := 0, len := 2, cap := 3 }, by decide⟩

/-- No `range` over a map in the generator, validator or tokenizer sources is order-sensitive (regenerated
    audit: each one only stores into maps / sets, collects into a slice that is sorted afterwards, or tests
    existence). -/
theorem C14_no_order_sensitive_map_range : PurityFacts.mapRanges.all rangeOk = true := by decide

/-- Collect-then-sort is independent of the iteration order: whatever order the map yields its entries in
    (any permutation), and whatever sorting algorithm is used (any function returning a sorted permutation),
    the emitted sequence is the same, provided the indices are distinct (they are keys of a Go map). -/
theorem C14_sorted_emission_order_independent {β} (entries₁ entries₂ r₁ r₂ : List (Nat × β))
    (horder : entries₁.Perm entries₂) (hkeys : (entries₁.map (·.1)).Nodup)
    (hs₁ : SortedBy r₁) (hp₁ : r₁.Perm entries₁) (hs₂ : SortedBy r₂) (hp₂ : r₂.Perm entries₂) : r₁ = r₂ := by
  apply sorted_perm_unique r₁ r₂ hs₁ hs₂ (hp₁.trans (horder.trans hp₂.symm))
  exact (hp₁.map (·.1)).nodup_iff.mpr hkeys

/-- non-vacuity: a run of the regenerated event list that really appends through a slice with spare capacity -/
example : (runField "Structs" generateEvents (fun _ => [7]) 0 [[1, 2, 0, 0]] { arr := 0, off := 0, len := 2, cap := 4 }).1[0]? = some [1, 2, 0, 0] := by
  decide

end Bebop.Props.C14
