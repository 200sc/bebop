/-
  C15  Constants, enum members and opcodes carry the schema's values into Go.

  Integer literals are copied into the Go source as text and are read by the parser with Go's strconv
  (base 0); [flags] expressions are evaluated at parse time in the enum's width-specific integer type;
  opcodes are integers or four ASCII characters. The theorems say that on the model these agree with the
  Spec (Bebop.Text.Grammar: `litValue`, `specEval`, `opCodeOf`), whose definitions do not mention widths.
  What a theorem cannot carry: that the Go compiler gives the copied text the same value (it is the same
  strconv / constant arithmetic, observed exactly through go/constant by the gencheck engine), floats and
  string escapes (observed), and that members are typed constants of an enum with the declared base type
  (observed through go/types).
-/
import Bebop.Proofs.Flags

namespace Bebop.Text

/-- Whatever Go's ParseUint (base 0) accepts of a literal without a leading zero has the Spec's value and
    fits the width. -/
theorem C15_uint_literal_value (t : Str) (bits n : Nat) (hc : CanonicalLit t) (h : parseUint t true bits = some n) :
    litValue t = some (n : Int) ∧ n < 2 ^ bits := ((parseUint_iff t bits n hc).1 h).2.2

/-- … and ParseInt, for every width, including the most negative value. -/
theorem C15_int_literal_value (t : Str) (bits : Nat) (v : Int) (hc : CanonicalLit t) (hp : NoPlus t)
    (h : parseInt t true bits = some v) :
    litValue t = some v ∧ -((2 ^ (bits - 1) : Nat) : Int) ≤ v ∧ v < ((2 ^ (bits - 1) : Nat) : Int) :=
  have ⟨_, hv, hr⟩ := (parseInt_iff t bits v hc hp).1 h
  ⟨hv, (inRange_signed bits v).1 hr⟩

/-- Conversely every in-range literal the Spec gives a value is accepted with that value (so no legal
    decimal or hex form, positive or negative, up to the full 64-bit range, is refused or changed).
    `hc` is not needed: it follows from `h` (`litValue_canonical`). -/
theorem C15_literal_accepted (t : Str) (bits : Nat) (v : Int) (hc : CanonicalLit t) (hd : HasDigits (litBody t))
    (h : litValue t = some v) :
    (inRange bits false v = true → parseInt t true bits = some v) ∧
    (litNeg t = false → inRange bits true v = true → parseUint t true bits = some v.toNat) :=
  litValue_accepted t bits v hd h

/-- [flags] members are the value of their expression: for each of the eight base types, every expression
    tree over | & << >>, parentheses, literals and earlier members, whenever the Spec's unbounded evaluation
    stays inside the base type at every node (and shift counts are below the width), the width-specific
    evaluator of eval_expr.go returns exactly the Spec's value. -/
theorem C15_flags_value_partial (bits : Nat) (unsigned : Bool) (hb : bits ∈ [8, 16, 32, 64])
    (opts : List EnumOption) (env : List (Str × Int)) (ha : EnvAgrees unsigned opts env)
    (e : Expr) (ho : OpsOk e) (hr : AllInRange bits unsigned env (toSpec e)) (v : Int)
    (hv : specEval env (toSpec e) = some v) : evalExpr bits unsigned opts e = some v :=
  (evalExpr_eq_specEval bits unsigned ((by decide : ∀ b ∈ [8, 16, 32, 64], 0 < b) bits hb) opts env ha e ho hr).trans hv

/-- What lies outside the guard is rejected, not silently wrapped (after repairs f9093a2 and ca3f397):
    a shift past the width, and an intermediate value that leaves the base type. -/
theorem C15_flags_overflow_rejected :
    evalExpr 32 true [] (.bin .dblLeft (.num (strOf "1")) (.num (strOf "40"))) = none ∧
    evalExpr 8 true [] (.bin .dblRight (.paren (.bin .dblLeft (.num (strOf "255")) (.num (strOf "4")))) (.num (strOf "4"))) = none :=
  ⟨shift_guard_needed.1, inner_range_needed.1⟩

/-- Every operator tree the parser builds uses only the four operators. -/
theorem C15_parsed_expressions_wellformed (f : Nat) (toks : List Token) (e : Expr) (h : parseExpr f toks = some e) :
    OpsOk e := parseExpr_opsOk f toks e h

/-- A four-character opcode is the little-endian u32 of its bytes. -/
theorem C15_opcode_four_chars_little_endian (a b c d : Byte) :
    ofLe [a, b, c, d] = a.toNat + 256 * b.toNat + 65536 * c.toNat + 16777216 * d.toNat := by
  simp only [ofLe]; omega

/-- non-vacuity: "ABCD" is 0x44434241, and a concrete [flags] expression meets the guard -/
example : opCodeOf (some (strOf "\"ABCD\"")) = some 0x44434241 := by decide
example : litValue (strOf "-0x10") = some (-16) ∧ litValue (strOf "18446744073709551615") = some 18446744073709551615 := by decide

/-- A leading zero is read as octal by Go and has no value in the Spec: literals are guarded by `CanonicalLit`. -/
theorem C15_leading_zero_is_outside_the_spec :
    evalExpr 32 true [] (.num (strOf "010")) = some 8 ∧ litValue (strOf "010") = none :=
  canonical_guard_needed

end Bebop.Text
