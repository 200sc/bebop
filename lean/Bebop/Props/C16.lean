/-
  C16  Formatting a schema never changes what it means.

  Full statement: `C16_statement` (a definition, not proved in this generality; decided on every accepted input
  of all streams by the correspondence engine, with the formatter model tied byte for byte to the real Format).
  Proved:
  * `C16_format_terminates`: on EVERY input (accepted or not) the formatter returns; none of its loops or
    recursions runs out of the fuel `format` supplies, and the result does not depend on the fuel. This was
    FALSE at the pinned commit (truncated inputs: fatal stack overflow / endless loop; repaired, fix fc00d35).
  * the meaning-preservation and layout-normalisation theorems for the sub-language proved in
    Bebop/Props/Canon.lean (`C16_*_partial`), re-exported below.
-/
import Bebop.Props.Canon

namespace Bebop.Text

/-- The property at full strength (a definition, not a theorem). `sameMeaning` stands for equality of Files up to
    the attachment of comments; it is a parameter, so that the statement does not fix how that is spelt. -/
def C16_statement (sameMeaning : File → File → Prop) : Prop :=
  ∀ (inp : List Byte) (f : File), readFile inp false = .ok f →
    ∃ out f', format inp = some out ∧ readFile out false = .ok f' ∧ sameMeaning f f'

/-- Format terminates without running away, for every input. -/
theorem C16_format_terminates (inp : List Byte) : (format inp).isSome = true := format_total inp

/-- … and the fuel it is given is irrelevant: any larger fuel yields the same output. -/
theorem C16_format_fuel_irrelevant (inp : List Byte) :
    ∃ out, ∀ F, 2 * inp.length + 4 ≤ F → formatLoop F F (mkTR inp) [] false false = some out :=
  format_fuel_stable inp

/-- For every schema of the sub-language of Bebop/Props/Canon.lean (see Props/C11.lean for what it covers) and
    every layout of its text that `LayoutOk` admits: Format succeeds, its output is accepted and denotes the
    same File as the input (here even with the doc comments in place), and the output is the canonical text. -/
theorem C16_format_preserves_meaning_partial (f : CFile) (hf : CFileOk f) (w : Nat → List Byte)
    (hw : LayoutOk w (fileLex false f)) :
    ∃ out, format (laidOutF w f) = some out ∧ readFile out false = readFile (laidOutF w f) false ∧
      readFile out false = .ok (denote f) ∧ out = canonTextF f :=
  have h := C11_schema_canonical_partial f hf
  ⟨_, C16_schema_layout_partial f hf w hw, h.trans (C11_schema_layout_partial f hf w hw).symm, h, rfl⟩

end Bebop.Text
