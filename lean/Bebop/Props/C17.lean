/-
  C17  Formatting is idempotent.

  Full statement: `C17_statement` (a definition; decided on every accepted input of all streams by the
  correspondence engine: Format(Format(x)) = Format(x) byte for byte, formatter model tied byte for byte).
  Proved: the fixpoint / idempotence theorems for the sub-language of Bebop/Props/Canon.lean
  (`C17_*_partial`), re-exported below, and that the second pass always
  terminates (`C17_second_pass_terminates`).
-/
import Bebop.Props.Canon

namespace Bebop.Text

/-- The property at full strength (a definition, not a theorem). -/
def C17_statement (accepted : List Byte → Prop) : Prop :=
  ∀ inp, accepted inp → ∀ out, format inp = some out → format out = some out

/-- Both passes return, whatever the input. -/
theorem C17_second_pass_terminates (inp : List Byte) :
    ∃ out, format inp = some out ∧ (format out).isSome = true :=
  have ⟨out, h⟩ := Option.isSome_iff_exists.1 (format_total inp)
  ⟨out, h, format_total out⟩

/-- For every schema of the sub-language of Bebop/Props/Canon.lean and every layout of its text that
    `LayoutOk` admits, formatting the formatter's output changes nothing, byte for byte. -/
theorem C17_format_idempotent_partial (f : CFile) (hf : CFileOk f) (w : Nat → List Byte)
    (hw : LayoutOk w (fileLex false f)) :
    ∃ out, format (laidOutF w f) = some out ∧ format out = some out ∧
      (format (laidOutF w f) >>= format) = format (laidOutF w f) := by
  obtain ⟨out, h1, _, _, h4, h5⟩ := C16_C17_schema_layout_partial f hf w hw
  exact ⟨out, h1, h4, h5⟩

/-- The formatter's own layout is a fixpoint. -/
theorem C17_canonical_text_is_fixpoint_partial (f : CFile) (hf : CFileOk f) :
    format (canonTextF f) = some (canonTextF f) := C17_schema_canonical_partial f hf

end Bebop.Text
