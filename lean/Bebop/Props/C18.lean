/-
  C18 — import handling: the worklist of File.Generate imports every transitively imported file exactly
  once (combined mode = inlining each of them once), the only worklist error is a missing file, and the
  package-graph cycle search (internal/importgraph) answers `true` exactly when the recorded edge list
  has a cycle.

  Model: Bebop/Text/Imports.lean. Specification notions (`Imports`, `Reachable`, `Edge`, `Path`,
  `HasCycle`) and the invariant lemmas: Bebop/Proofs/Imports.lean.
-/
import Bebop.Proofs.Imports

namespace Bebop.Text

/-! ## A. The worklist -/

/-- For every fuel value: whatever the worklist has imported so far is duplicate free,
    transitively imported by the root, and exists. -/
theorem C18_worklist_sound_anyfuel (fs : FS) (root : SrcInfo) (fuel : Nat)
    (imported : List Nat) (edges : List (Option Nat × Option Nat))
    (h0 : fs[0]? = some root)
    (h : worklist fs fuel (root.imports.map (fun t => (root.pkg, t))) [] [] = .ok (imported, edges)) :
    imported.Nodup ∧ (∀ t ∈ imported, Reachable fs t ∧ fs[t]?.isSome) := by
  have hs := worklist_spec fs fuel _ [] [] (WL.init h0)
  rw [h] at hs
  obtain ⟨_, hw, _⟩ := hs
  exact ⟨hw.nodup, hw.imp⟩

/-- The only error the worklist can produce is `notFound`, and only because some transitively
    imported target does not exist (any fuel). -/
theorem C18_worklist_error (fs : FS) (root : SrcInfo) (fuel : Nat) (e : ImpErr)
    (h0 : fs[0]? = some root)
    (h : worklist fs fuel (root.imports.map (fun t => (root.pkg, t))) [] [] = .error e) :
    e = .notFound ∧ ∃ t, Reachable fs t ∧ fs[t]? = none := by
  have hs := worklist_spec fs fuel _ [] [] (WL.init h0)
  rwa [h] at hs

/-- With the fuel `resolveImports` supplies, a successful worklist run returns exactly the files
    transitively imported by the root, each once, and all of them exist. -/
theorem C18_worklist_sound (fs : FS) (root : SrcInfo) (fuel : Nat)
    (imported : List Nat) (edges : List (Option Nat × Option Nat))
    (h0 : fs[0]? = some root)
    (hfuel : fuel = fs.foldl (fun n i => n + i.imports.length) 0 + root.imports.length + 1)
    (h : worklist fs fuel (root.imports.map (fun t => (root.pkg, t))) [] [] = .ok (imported, edges)) :
    imported.Nodup ∧
    (∀ t ∈ imported, Reachable fs t ∧ fs[t]?.isSome) ∧
    (∀ t, Reachable fs t → t ∈ imported) := by
  subst hfuel
  have hr := worklist_root h0
  rw [h] at hr
  exact ⟨hr.1.nodup, fun t ht => ⟨(hr.1.mem t).mp ht, hr.1.exist t ((hr.1.mem t).mp ht)⟩, fun t => (hr.1.mem t).mpr⟩

/-- With the fuel of `resolveImports`: the worklist succeeds iff every transitively imported target exists. -/
theorem C18_worklist_ok_iff (fs : FS) (root : SrcInfo) (fuel : Nat)
    (h0 : fs[0]? = some root)
    (hfuel : fuel = fs.foldl (fun n i => n + i.imports.length) 0 + root.imports.length + 1) :
    (∃ imported edges,
        worklist fs fuel (root.imports.map (fun t => (root.pkg, t))) [] [] = .ok (imported, edges)) ↔
      ∀ t, Reachable fs t → fs[t]?.isSome := by
  subst hfuel
  have hr := worklist_root h0
  cases hw : worklist fs (worklistFuel fs root) (rootWork root) [] [] with
  | ok r => rw [hw] at hr; exact iff_of_true ⟨r.1, r.2, rfl⟩ hr.1.exist
  | error e =>
    rw [hw] at hr
    obtain ⟨_, t, ht, hn⟩ := hr
    exact iff_of_false nofun fun hall => by simpa [hn] using hall t ht

/-- With the fuel of `resolveImports`, the edge list handed to the cycle search is exactly the package
    graph of the import statements of the root and of the transitively imported files. -/
theorem C18_edges_exact (fs : FS) (root : SrcInfo) (fuel : Nat)
    (imported : List Nat) (edges : List (Option Nat × Option Nat))
    (h0 : fs[0]? = some root)
    (hfuel : fuel = fs.foldl (fun n i => n + i.imports.length) 0 + root.imports.length + 1)
    (h : worklist fs fuel (root.imports.map (fun t => (root.pkg, t))) [] [] = .ok (imported, edges)) :
    ∀ a b, (a, b) ∈ edges ↔ PkgEdge fs a b := by
  subst hfuel
  have hr := worklist_root h0
  rw [h] at hr
  exact hr.2

/-! ## B. The cycle search -/

/-- What a `true` answer of `dfs` means for an arbitrary recursion stack: from `node` one can walk back
    into `node :: stack`, or to a node lying on a cycle. -/
theorem C18_dfs_true (edges : List (Option Nat × Option Nat)) (fuel : Nat) (node : Option Nat)
    (stack : List (Option Nat)) (h : dfs edges fuel node stack = some true) :
    (∃ t ∈ node :: stack, Path edges node t) ∨ (∃ t, Path edges node t ∧ Path edges t t) :=
  dfs_true edges fuel node stack h

/-- `findCycle` always answers (the recursion depth it allows is never exceeded). -/
theorem C18_findCycle_terminates (edges : List (Option Nat × Option Nat)) : findCycle edges ≠ none :=
  fun h => (findCycle_spec edges).of_eq h

/-- `findCycle` decides `HasCycle`. -/
theorem C18_findCycle_correct (edges : List (Option Nat × Option Nat)) :
    (findCycle edges = some true ↔ HasCycle edges) ∧ (findCycle edges = some false ↔ ¬ HasCycle edges) :=
  (findCycle_spec edges).decides

/-- Whenever `findCycle` answers, the answer is right. -/
theorem C18_findCycle_iff (edges : List (Option Nat × Option Nat)) (b : Bool)
    (h : findCycle edges = some b) : b = true ↔ HasCycle edges :=
  match b, (findCycle_spec edges).of_eq h with
  | true, hs => iff_of_true rfl hs
  | false, hs => iff_of_false nofun hs

/-- Soundness: when the recursion stack is a path leading to `node` (as it is in every call made by
    `findCycle`), a `true` answer of `dfs` is a cycle; hence so is a `true` answer of `findCycle`. -/
theorem C18_dfs_sound (edges : List (Option Nat × Option Nat)) :
    (∀ fuel node stack, (∀ s ∈ stack, Path edges s node) →
        dfs edges fuel node stack = some true → HasCycle edges) ∧
    (findCycle edges = some true → HasCycle edges) :=
  ⟨fun fuel node stack hst h => dfs_true_cycle edges fuel node stack hst h, (C18_findCycle_correct edges).1.1⟩

/-- Completeness: a `false` answer of `dfs` from a root (empty stack) means that no cycle is reachable
    from that root, and a `false` answer of `findCycle` means that the edge list has no cycle at all. -/
theorem C18_dfs_complete (edges : List (Option Nat × Option Nat)) :
    (∀ fuel r, dfs edges fuel r [] = some false → ∀ m, (r = m ∨ Path edges r m) → ¬ Path edges m m) ∧
    (findCycle edges = some false → ¬ HasCycle edges) :=
  ⟨fun _ _ h => dfs_false_good h, (C18_findCycle_correct edges).2.1⟩

/-! ## C. `resolveImports`: every theorem below is `resolveImports_spec` read in one direction -/

/-- `resolveImports` never reports that the model ran out of fuel, in either mode. (That the worklist
    fuel is also *sufficient*, i.e. the worklist really ran to completion, is part of
    `C18_worklist_sound`.) -/
theorem C18_terminates (fs : FS) (sep : Bool) : resolveImports fs sep ≠ .fuel := by
  intro h
  rcases resolveImports_spec fs sep with ⟨_, hn⟩ | ⟨imported, _, he⟩
  · simp [hn] at h
  · rw [h] at he; cases he

/-- Combined mode never runs out of fuel (the case `sep = false` of `C18_terminates`). -/
theorem C18_terminates_partial (fs : FS) : resolveImports fs false ≠ .fuel := C18_terminates fs false

/-- A missing file is reported (in both modes) exactly when the root or a transitively imported target
    does not exist. -/
theorem C18_notFound_iff (fs : FS) (sep : Bool) :
    resolveImports fs sep = .err .notFound ↔ (fs[0]? = none ∨ ∃ t, Reachable fs t ∧ fs[t]? = none) := by
  rcases resolveImports_spec fs sep with ⟨hm, h⟩ | ⟨imported, hcl, he⟩
  · exact iff_of_true h hm
  · exact iff_of_false (fun h => by rw [h] at he; cases he) hcl.not_missing

/-- Combined mode: a successful result is the root followed by exactly the transitively imported files,
    without repetition. -/
theorem C18_combined_ok (fs : FS) (files : List Nat) (h : resolveImports fs false = .ok files) :
    files.head? = some 0 ∧ files.Nodup ∧ ∀ t, t ∈ files ↔ (t = 0 ∨ Reachable fs t) := by
  rcases resolveImports_spec fs false with ⟨_, hn⟩ | ⟨imported, hcl, he⟩
  · simp [hn] at h
  · rw [h] at he
    cases he with
    | combined h0 => exact ⟨rfl, List.nodup_cons.mpr ⟨h0, hcl.nodup⟩, fun t => by simp [hcl.mem]⟩

/-- Separate mode reports an import cycle exactly when everything resolves and the package graph of the
    live files has a cycle. -/
theorem C18_separate_cycle_iff (fs : FS) :
    resolveImports fs true = .err .cycle ↔
      (fs[0]?.isSome ∧ (∀ t, Reachable fs t → fs[t]?.isSome) ∧ ∃ n, PkgPath fs n n) := by
  rcases resolveImports_spec fs true with ⟨hm, h⟩ | ⟨imported, hcl, he⟩
  · exact iff_of_false (by simp [h]) fun ⟨h0, hall, _⟩ => hm.elim (fun hm => by simp [hm] at h0)
      fun ⟨t, ht, hm⟩ => by simpa [hm] using hall t ht
  · generalize hr : resolveImports fs true = r at he
    cases he with
    | cycle hp => exact iff_of_true rfl ⟨hcl.root, hcl.exist, _, hp⟩
    | noPkg hnc | separate hnc => exact iff_of_false nofun fun h => hnc h.2.2

/-- Separate mode: a successful result is the root followed by exactly the transitively imported files,
    without repetition; the package graph has no cycle and every imported file has a go_package. -/
theorem C18_separate_ok (fs : FS) (files : List Nat) (h : resolveImports fs true = .ok files) :
    files.head? = some 0 ∧ files.Nodup ∧ (∀ t, t ∈ files ↔ (t = 0 ∨ Reachable fs t)) ∧
    (¬ ∃ n, PkgPath fs n n) ∧
    (∀ t, Reachable fs t → ∃ i p, fs[t]? = some i ∧ i.pkg = some p) := by
  rcases resolveImports_spec fs true with ⟨_, hn⟩ | ⟨imported, hcl, he⟩
  · simp [hn] at h
  · rw [h] at he
    cases he with
    | separate hnc h0 hpk =>
      exact ⟨rfl, List.nodup_cons.mpr ⟨h0, hcl.nodup⟩, fun t => by simp [hcl.mem], hnc,
        fun t ht => hpk t ((hcl.mem t).mpr ht)⟩

/-! ## D. Non-vacuity -/

section Examples

/-- A diamond: 0 imports 1 and 2, both import 3. -/
def c18Diamond : FS := [⟨some 0, [1, 2]⟩, ⟨some 1, [3]⟩, ⟨some 2, [3]⟩, ⟨some 3, []⟩]

/-- Two files importing each other. -/
def c18Cycle : FS := [⟨some 0, [1]⟩, ⟨some 1, [0]⟩]

example : resolveImports c18Diamond false = .ok [0, 1, 2, 3] := by rfl
example : resolveImports c18Cycle false = .err .validate := by rfl
example : resolveImports [⟨some 0, [1, 5]⟩, ⟨some 1, []⟩] false = .err .notFound := by rfl

example : worklist c18Diamond 5 [(some 0, 1), (some 0, 2)] [] [] =
    .ok ([1, 2, 3], [(some 0, some 1), (some 0, some 2), (some 1, some 3), (some 2, some 3)]) := by rfl

example : worklist c18Cycle 4 [(some 0, 1)] [] [] =
    .ok ([1, 0], [(some 0, some 1), (some 1, some 0), (some 0, some 1)]) := by rfl

/-- Separate mode on the 2-cycle: the cycle search finds `some 0 → some 1 → some 0`.  (Separate mode runs
    `findCycle`, whose `sortNodes` is `Array.qsort` — well-founded recursion, which `rfl` does not unfold; so these
    three examples evaluate the worklist by `rfl` and take the answer of the cycle search from
    `C18_findCycle_correct`.) -/
example : resolveImports c18Cycle true = .err .cycle :=
  resolveImports_ok (root := ⟨some 0, [1]⟩) (imported := [1, 0]) rfl rfl
    ((C18_findCycle_correct [(some 0, some 1), (some 1, some 0), (some 0, some 1)]).1.mpr
      ⟨some 0, Path.cons (b := some 1) (by simp [Edge]) (Path.single (by simp [Edge]))⟩) true

/-- Separate mode on the diamond: no cycle, every file has a package. -/
example : resolveImports c18Diamond true = .ok [0, 1, 2, 3] :=
  resolveImports_ok (root := ⟨some 0, [1, 2]⟩) (imported := [1, 2, 3]) rfl rfl
    ((C18_findCycle_correct [(some 0, some 1), (some 0, some 2), (some 1, some 3), (some 2, some 3)]).2.mpr
      (no_cycle_of_rank _ (fun o => o.getD 0) (by decide))) true

/-- A transitively imported file without go_package is rejected in separate mode. -/
example : resolveImports [⟨some 0, [1]⟩, ⟨none, []⟩] true = .err .noPkg :=
  resolveImports_ok (root := ⟨some 0, [1]⟩) (imported := [1]) rfl rfl
    ((C18_findCycle_correct [(some 0, none)]).2.mpr
      (no_cycle_of_rank _ (fun o => match o with | none => 1 | some _ => 0) (by decide))) true

end Examples

end Bebop.Text
