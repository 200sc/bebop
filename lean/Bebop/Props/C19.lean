/-
  C19  The command-line tools never damage files they cannot process.

  The programs are the call lists regenerated from main/bebopc-go/main.go and main/bebopfmt/main.go
  (Bebop.Generated.CliFacts); `decide` checks that they have the safe shape, and `safe_preserves` -- proved for
  every program of that shape, every schedule of failures and crashes, every produced byte string and every
  initial file-system state -- gives the property.

  Not in this theorem (see DESIGN.md): the second sentence of C19 (a successful bebopfmt -w leaves a file that
  parses to the same schema) is the formatter property C16 applied to the bytes written; the correspondence
  engine checks it on the real binary.
-/
import Bebop.Proofs.Cli

namespace Bebop.Props.C19
open Bebop.Cli

/-- bebopc-go: whatever fails (opening or parsing the input, validation / generation, creating, writing,
    closing or renaming the temporary file) or wherever the process dies, the -o target keeps its previous
    contents (or stays absent) and the exit status is not 0; when nothing fails the target holds exactly the
    generated bytes and the status is 0. -/
theorem C19_bebopc_preserves_target (data : Bytes) (sched : List Outcome) (fs : FS) :
    Preserves fs.target data (exec data bebopc sched fs false) :=
  safe_preserves bebopc (by decide +kernel) data sched fs

/-- bebopfmt -w: the same for the file being rewritten. -/
theorem C19_bebopfmt_preserves_file (data : Bytes) (sched : List Outcome) (fs : FS) :
    Preserves fs.target data (exec data bebopfmt sched fs false) :=
  safe_preserves bebopfmt (by decide +kernel) data sched fs

/-- The exit status is non-zero exactly when an error is reported: `main` prints the error and exits 1 iff
    `run` returns one (shape read from the source), and in the model a run ends `.reported` exactly when a
    checked call failed; a run that ends `.zero` had no failure at all. -/
theorem C19_exit_status_matches_report :
    CliFacts.bebopcMainReports = true ∧ CliFacts.bebopfmtMainReports = true ∧
    (∀ data sched fs, (exec data bebopc sched fs false).exit = .zero ↔ (exec data bebopc sched fs false).failed = false) ∧
    (∀ data sched fs, (exec data bebopfmt sched fs false).exit = .zero ↔ (exec data bebopfmt sched fs false).failed = false) :=
  ⟨by decide, by decide, fun data sched fs => (C19_bebopc_preserves_target data sched fs).exit_zero_iff,
    fun data sched fs => (C19_bebopfmt_preserves_file data sched fs).exit_zero_iff⟩

/-! ### Why the shape matters: the program both tools had before the repair -/

/-- `os.Create(target)` followed by `Write`: what the tools did at the pinned commit. -/
def createThenWrite : List Step :=
  [ { name := "os.Open", act := .read, checked := true, deferred := false },
    { name := "bebop.ReadFile", act := .read, checked := true, deferred := false },
    { name := "os.Create", act := .createTarget, checked := true, deferred := false },
    { name := "target.Write", act := .writeTarget, checked := true, deferred := false } ]

/-- A write that fails after 1 byte leaves the previous contents replaced by that byte. -/
theorem C19_create_then_write_damages :
    ∃ sched, ¬ Preserves (some [1, 2, 3]) [9, 9] (exec [9, 9] createThenWrite sched { target := some [1, 2, 3], tmp := none } false) :=
  ⟨[.ok, .ok, .ok, .fail 1], fun h => absurd (h.1 (by decide)).1 (by decide)⟩

/-! ### Non-vacuity: concrete runs of the regenerated programs -/

/-- nothing fails: the generated bytes are installed -/
example : (exec [7, 7] bebopc [] { target := some [1], tmp := none } false).fs.target = some [7, 7] := by decide
/-- the write is cut short by a crash: the target is untouched -/
example : (exec [7, 7] bebopc [.ok, .ok, .ok, .ok, .crash 1] { target := some [1], tmp := none } false).fs.target = some [1] := by decide
/-- parsing fails: reported, target untouched -/
example : (exec [7, 7] bebopfmt [.ok, .fail 0] { target := some [1], tmp := none } false).exit = .reported := by decide

end Bebop.Props.C19
