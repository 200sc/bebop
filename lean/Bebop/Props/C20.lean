/-
  C20 — iohelp primitives are exact inverses and never return stale data as valid.

  A w-byte primitive is its bit pattern `n < 256^w`; `leBytes` / `ofLe` model the unsafe little-endian
  stores / loads (that a `*(*uint32)(unsafe.Pointer(&b[0]))` is a little-endian load is a hardware fact
  observed by the correspondence run, not proved). `readN true` models a bounds-checked slice read,
  `sread` an io.ReadFull through the ErrorReader.
-/
import Bebop.Props.C03
import Bebop.Proofs.NoPanic

namespace Bebop

/-- Read(Write(x)) = x for EVERY bit pattern of every width (NaN payloads included: floats are bits). -/
theorem C20_read_write (w n : Nat) (h : n < 256 ^ w) : ofLe (leBytes w n) = n := ofLe_leBytes w n h

/-- Write(Read(bs)) = bs for every byte string of the width. -/
theorem C20_write_read (bs : List Byte) : leBytes bs.length (ofLe bs) = bs := leBytes_ofLe bs

/-- The layout is little-endian: first byte = least significant. -/
theorem C20_little_endian (w n : Nat) : (leBytes (w+1) n).head? = some (UInt8.ofNat (n % 256)) := rfl

/-- GUIDs: the three regenerated index tables are the field-swapped .NET order and are mutually inverse. -/
theorem C20_guid_roundtrip (bs : List Byte) (h : bs.length = 16) :
    guidRead (guidWire bs) = bs ∧ guidWire (guidRead bs) = bs := guid_tables_inverse bs h

theorem C20_guid_tables_agree :
    Facts.guidWritePerm = Facts.guidWriteStreamPerm ∧ Facts.guidWritePerm = guidSpecPerm ∧
    Facts.guidReadPerm = guidSpecPerm :=
  let ⟨hw, hs, hr⟩ := C03_guid_tables
  ⟨hw.trans hs.symm, hw, hr⟩

/-- Dates: tick 0 and the zero time correspond, and every in-range tick count survives ×100 ÷100. -/
theorem C20_date_zero : dateNorm 0 = 0 := by decide
theorem C20_date_roundtrip (n : Nat) (h : dateOk n) : dateNorm n = n := dateNorm_of_ok n h

/-- ReadStringBytes returns an error instead of reading out of bounds: whenever the buffer is shorter
    than 4 + the declared length, the checked string read fails, and it never panics. -/
theorem C20_string_read_checked (env : Env) (f : Nat) (buf : List Byte) :
    (buf.length < 4 → dec (f+1) env true .str buf = .err) ∧
    (4 ≤ buf.length → buf.length < 4 + ofLe (buf.take 4) → dec (f+1) env true .str buf = .err) ∧
    dec (f+1) env true .str buf ≠ .panic := by
  refine ⟨fun h => bind_eq_err_of (bind_eq_err_of (if_neg (Nat.not_le_of_lt h))), fun h4 h => ?_,
    (dec_safe [] env (f+1) .str buf).ne_panic⟩
  simp [dec, readU32, readN, h4, List.length_drop, show ¬ ofLe (buf.take 4) ≤ buf.length - 4 by omega]

def zeroOf : Ty → Val
  | .bool => .scalar 1 0 | .scalar w => .scalar w 0 | .f32 => .scalar 4 0 | .f64 => .scalar 8 0
  | .date => .scalar 8 0 | .guid => .guid zeroGuid | .str => .str [] | _ => .scalar 0 0

/-- A stream read that fails is reflected in the reader's error state, and the value returned with it
    is the zero value — never bytes left over from an earlier read. -/
theorem C20_failed_read_is_zero_and_latched (env : Env) (f : Nat) (ty : Ty) (n : Nat)
    (hfx : fixedSize ty = some n) (s : RState) (h : s.avail < n) :
    sdec (f+1) env ty s = (.val (zeroOf ty), (sdec (f+1) env ty s).2) ∧ (sdec (f+1) env ty s).2.err = true := by
  have hr : sread n s = (none, { s.consume s.avail with err := true }) := if_neg (Nat.not_le_of_lt h)
  have hz : primVal ty [] = zeroOf ty := by cases ty <;> cases hfx <;> rfl
  simp [sdec_fixed hfx, hr, hz]

/-- Stream and byte-slice variants agree: on the same bytes they return the same value. -/
theorem C20_stream_slice_agree (env : Env) (f : Nat) (ty : Ty) (n : Nat) (hfx : fixedSize ty = some n)
    (bs rest : List Byte) (hb : bs.length = n) (s : RState) (hs : Reads s bs) :
    ∃ v, dec (f+1) env true ty (bs ++ rest) = .ok (v, rest) ∧ sdec (f+1) env ty s = (.val v, s.consume n) := by
  refine ⟨primVal ty bs, ?_, ?_⟩
  · rw [dec_fixed hfx, readN_append true n bs rest hb]; rfl
  · rw [sdec_fixed hfx, sread_reads s n bs hb hs]; rfl

/-- Non-vacuity: a NaN with a payload, and a stale-read scenario (2 bytes left, 8 wanted). -/
example : ofLe (leBytes 8 0x7ff8dead0000beef) = 0x7ff8dead0000beef := C20_read_write 8 _ (by decide)
example : (sdec 1 [] (.scalar 8) { data := [1, 2], limits := [], err := false }).2.err = true :=
  (C20_failed_read_is_zero_and_latched [] 0 (.scalar 8) 8 rfl _ (by decide)).2

end Bebop
