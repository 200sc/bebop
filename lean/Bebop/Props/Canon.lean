/-
  C11 / C16 / C17 on a sub-language of schemas — unbounded: EVERY schema of the sub-language (any number of
  definitions, fields and members, any identifiers), through the real tokenizer, parser and formatter models
  (`readFile`, `format`) with the fuel they supply themselves.

  The sub-language (Bebop/Proofs/Canon/Lang.lean).  A schema `CFile` is a list of top-level definitions
  `CTop` = `// doc` lines + a `CDef`:
  * `struct` (optional `[opcode(…)]` line, optional `readonly`), fields `Type name;` with field types
    `Name`, `array[T]`, `map[Key, V]` (nested) each with any number of `[]` suffixes, an optional
    `[deprecated("msg")]` line, `// doc` lines, and an optional trailing `// comment`;
  * `message` (optional `[opcode(…)]`), fields `idx -> Type name;` (decimal index 1 … 255, distinct), with
    `[deprecated]` / doc lines;
  * `enum` with optional base type `: uint8` … and optional `[flags]` line, members `Name = literal;` (decimal,
    `0x…`, negative literals that fit the base type) — in a `[flags]` enum `Name = expression;` over literals,
    earlier members, `|`, `&`, `<<`, `>>` and parentheses (value: the model's own `parseExpr` / `evalExpr`, which
    must succeed) — with `[deprecated]` / doc lines;
  * `union` (optional `[opcode(…)]`), members `idx -> struct Name { … }` / `idx -> message Name { … }`
    (index 0 … 255, distinct) with their bodies indented one more tab, with `[deprecated]` / doc lines;
  * `const type name = literal;` for integer literals (integer / float types), float literals `[-]d+.d+`, `inf`,
    `-inf`, `nan` (float types), `true` / `false`, plain strings (including the `go_package` constant, which sets
    `File.goPackage`), guids;
  * `import "path"`.
  `CFileOkP f` is its well-formedness for the parser theorems (identifiers, literals that the parser accepts,
  distinct indices, doc lines without CR / LF — inside struct / message / union bodies they may be tag comments
  `[tag(key)]` / `[tag(key:"plain value")]`, which the denotation turns into `tags` — no doc lines on an import,
  and no doc lines directly after a constant: finding F1); `CFileOk f` moreover excludes trailing comments after
  message fields, which the formatter moves (finding F2): it is the hypothesis of the C16 / C17 theorems.
  Both are decidable (Bebop/Proofs/Canon/Check.lean): `decide` is the executable check of a concrete schema.
  `denote f` is the `File` it denotes (definitions grouped by kind in source order; numbers evaluated with
  the model's `strconv` functions; doc lines joined by line breaks as `comment`).
  `canonTextF f` is its canonical text (`= fileText false f`, spelled out construct by construct in Lang.lean);
  `laidOutF w f` is the same token sequence with the run of blanks `w k` in front of the k-th token (and after
  the last one); `LayoutOk w (fileLex false f)`: every run consists of blanks (space, tab, CR) and is non-empty
  wherever the canonical text has a blank — so a layout may widen or change every blank run of the canonical
  text (indentation included), but not drop one. Line breaks are tokens and stay where the canonical text has
  them; `//` comments extend to their line break.

  The proofs give more than the statements below ask for: `Canon.readFile_laid` / `Canon.format_laid` hold for
  every text that `Canon.Laid` admits — the tokens of the schema with arbitrary runs of blanks in between, none
  required except where the two neighbours would otherwise run together (so also `struct A{`, fields without
  indentation, `map[K,V]`, `X=1;`). The layouts of `LayoutOk`, and those of `LayOk` of the struct-only
  sub-language at the end of this file, are of this kind.

  Proof architecture: `Canon.lex_laid` (Gen.lean) — the tokenizer delivers every admissible text of a lexeme
  list of known tokens as exactly its tokens; `Canon.fileLex_wf` (LangWF.lean) — the lexeme list of a
  well-formed schema is well-formed; ParseX.lean / FmtX.lean follow `readFile` / `format` on that token list
  over cursors (Cursor.lean: the current token, whether it is held back, the tokens to come), by induction over
  definitions, fields, types, and say what is returned unless the fuel runs out — that it never does is
  `readFile_spec` / `format_total`, for every input; what the body loops of struct, message, enum and
  union share (doc lines, the deprecated line, the closing brace) is proved once (`Canon.Body`, `Canon.FBody`).
  The string tables the models consult are lookups by bytes (Tables.lean).
-/
import Bebop.Proofs.Canon.ParseX
import Bebop.Proofs.Canon.FmtX
import Bebop.Proofs.Canon.Embed
import Bebop.Proofs.Canon.Check

namespace Bebop.Text
open Canon

theorem format_idem {x y : List Byte} (h1 : format x = some y) (h2 : format y = some y) :
    format x >>= format = format x := by
  rw [h1, Option.bind_eq_bind, Option.bind_some, h2]

/-- C11 (extended sub-language, every layout of `LayoutOk`): the parser returns exactly the denoted `File`. -/
theorem C11_schema_layout_partial (f : CFile) (hf : CFileOk f) (w : Nat → List Byte)
    (hw : LayoutOk w (fileLex false f)) : readFile (laidOutF w f) false = .ok (denote f) :=
  readFile_laid f hf.1 (laid_laidOutF hf.1 hw)

/-- C11 for the larger language of the parser theorems (`CFileOkP`): moreover trailing `// comments` after
    message fields, which the parser skips (the formatter moves them — finding F2 — so the C16 / C17 theorems
    exclude them). -/
theorem C11_schema_layout_trailing_partial (f : CFile) (hf : CFileOkP f) (w : Nat → List Byte)
    (hw : LayoutOk w (fileLex false f)) : readFile (laidOutF w f) false = .ok (denote f) :=
  readFile_laid f hf (laid_laidOutF hf hw)

/-- … and for its canonical spelling. -/
theorem C11_schema_canonical_trailing_partial (f : CFile) (hf : CFileOkP f) :
    readFile (canonTextF f) false = .ok (denote f) :=
  canonTextF_eq f ▸ C11_schema_layout_trailing_partial f hf _ (canonW_layoutOk f hf)

/-- C16 (extended sub-language, every layout of `LayoutOk`): the formatter emits the canonical text. -/
theorem C16_schema_layout_partial (f : CFile) (hf : CFileOk f) (w : Nat → List Byte)
    (hw : LayoutOk w (fileLex false f)) : format (laidOutF w f) = some (canonTextF f) :=
  format_laid f hf (laid_laidOutF hf.1 hw)

/-- C11 (extended sub-language): the canonical text parses to the denoted `File`. -/
theorem C11_schema_canonical_partial (f : CFile) (hf : CFileOk f) :
    readFile (canonTextF f) false = .ok (denote f) :=
  C11_schema_canonical_trailing_partial f hf.1

/-- C17 (extended sub-language): the canonical text is a fixpoint of the formatter. -/
theorem C17_schema_canonical_partial (f : CFile) (hf : CFileOk f) :
    format (canonTextF f) = some (canonTextF f) := by
  have := C16_schema_layout_partial f hf _ (canonW_layoutOk f hf.1)
  rwa [← canonTextF_eq] at this

/-- C16 + C17 (extended sub-language, every layout of `LayoutOk`): formatting preserves the meaning, its output is a
    fixpoint, and formatting is idempotent. -/
theorem C16_C17_schema_layout_partial (f : CFile) (hf : CFileOk f) (w : Nat → List Byte)
    (hw : LayoutOk w (fileLex false f)) :
    ∃ out, format (laidOutF w f) = some out ∧ readFile out false = readFile (laidOutF w f) false ∧
      readFile out false = .ok (denote f) ∧ format out = some out ∧
      (format (laidOutF w f) >>= format) = format (laidOutF w f) :=
  have h1 := C16_schema_layout_partial f hf w hw
  have h2 := C11_schema_canonical_partial f hf
  have h3 := C17_schema_canonical_partial f hf
  ⟨_, h1, h2.trans (C11_schema_layout_partial f hf w hw).symm, h2, h3, format_idem h1 h3⟩

/-- C16 (extended sub-language): formatting the canonical text preserves its meaning. -/
theorem C16_schema_canonical_partial (f : CFile) (hf : CFileOk f) :
    ∃ out, format (canonTextF f) = some out ∧ readFile out false = .ok (denote f) :=
  ⟨canonTextF f, C17_schema_canonical_partial f hf, C11_schema_canonical_partial f hf⟩

/-- C17 (extended sub-language): formatting the canonical text is idempotent. -/
theorem C17_schema_idempotent_partial (f : CFile) (hf : CFileOk f) :
    format (canonTextF f) >>= format = format (canonTextF f) :=
  format_idem (C17_schema_canonical_partial f hf) (C17_schema_canonical_partial f hf)

/-- The canonical text, construct by construct (see `fileText`, `defText`, … in Lang.lean). -/
theorem canonTextF_spelled_out (f : CFile) : canonTextF f = fileText false f := canonTextF_eq_fileText f

/-- The canonical text is the laid-out text of its own (admissible) layout. -/
theorem canonTextF_is_laidOut (f : CFile) (hf : CFileOk f) :
    canonTextF f = laidOutF (canonW (fileLex false f)) f ∧ LayoutOk (canonW (fileLex false f)) (fileLex false f) :=
  ⟨canonTextF_eq f, canonW_layoutOk f hf.1⟩

/-! ## The struct-only sub-language, a special case

  Definitions (Bebop/Proofs/Canon/Defs.lean, Bebop/Proofs/Canon/ByteClass.lean):
  * `CStruct`: a name and a list of fields (type name, field name);
  * `IdentOk s`: `s` is an ASCII letter followed by ASCII letters, digits, underscores (`identBytes`) and the
    tokenizer's `keywordKind` (a lookup in the regenerated `Facts.keywordTable`) does not make it a keyword;
    `CStructOk s`: the struct name and every type / field name are `IdentOk`;
  * `canonText ss`: `struct Name {\n` `\tType field;\n`… `}\n` per struct, one empty line between structs
    (the formatter's own output style; `canonText [] = []`);
  * `fileOf ss`: the `File` whose `structs` are the corresponding `Struct`s (no comment, opCode 0, not
    readonly, fields `FT.simple ty` without comment / tags / deprecation) and whose other components are empty;
  * `laidOut w ss`: the same token sequence written with arbitrary runs of blanks (space, tab, CR) `w i j k`
    before / between / after the tokens of every line (see the slot table in Defs.lean), every line break of
    the canonical text kept as exactly one `\n`; `LayOk w`: all runs are blanks, and the runs between
    `struct` and the name and between a field's type and name are non-empty. `canonText ss` is
    `laidOut canonLay ss`.

  It is an instance of the sub-language above (Bebop/Proofs/Canon/Embed.lean: same canonical text, same denoted
  `File`, well-formedness carries over, and every `laidOut w ss` with `LayOk w` is an admissible text,
  `Canon.Laid`, of the embedded schema), so its theorems are corollaries of `Canon.readFile_laid` /
  `Canon.format_laid` (`structs_laid`). -/

/-- The struct-only sub-language inherits both theorems of the extended one, for every admissible text of the
    embedded schema. -/
theorem structs_laid (ss : List CStruct) (h : ∀ s ∈ ss, CStructOk s) {bs : List Byte}
    (hl : Laid false (fileLex false (ss.map CTop.ofStruct)) bs) :
    format bs = some (canonText ss) ∧ readFile bs false = .ok (fileOf ss) :=
  have hf := cfileOk_ofStructs ss h
  ⟨canonTextF_ofStructs ss ▸ format_laid _ hf hl, denote_ofStructs ss ▸ readFile_laid _ hf.1 hl⟩

/-- C11 (struct-only sub-language): the parser, through the tokenizer model, returns exactly the `File` the canonical
    text denotes. -/
theorem C11_structs_canonical_partial (ss : List CStruct) (h : ∀ s ∈ ss, CStructOk s) :
    readFile (canonText ss) false = .ok (fileOf ss) :=
  laidOut_canon ss ▸ (structs_laid ss h (laid_laidOut ss canonLay_ok)).2

/-- C17 (struct-only sub-language): canonical text is a fixpoint of the formatter. -/
theorem C17_structs_canonical_partial (ss : List CStruct) (h : ∀ s ∈ ss, CStructOk s) :
    format (canonText ss) = some (canonText ss) := by
  have := (structs_laid ss h (laid_laidOut ss canonLay_ok)).1
  rwa [laidOut_canon] at this

/-- C16 (struct-only sub-language): formatting canonical text preserves its meaning. -/
theorem C16_structs_canonical_partial (ss : List CStruct) (h : ∀ s ∈ ss, CStructOk s) :
    ∃ out, format (canonText ss) = some out ∧ readFile out false = .ok (fileOf ss) :=
  ⟨canonText ss, C17_structs_canonical_partial ss h, C11_structs_canonical_partial ss h⟩

/-- C17 (struct-only sub-language): formatting canonical text is idempotent. -/
theorem C17_structs_canonical_idempotent_partial (ss : List CStruct) (h : ∀ s ∈ ss, CStructOk s) :
    format (canonText ss) >>= format = format (canonText ss) :=
  format_idem (C17_structs_canonical_partial ss h) (C17_structs_canonical_partial ss h)

/-- C11 / C16 for every layout of `LayOk`: whatever the horizontal layout, the formatter emits the canonical text and
    the parser returns the `File` the schema denotes. -/
theorem C16_structs_layout_partial (w : CLay) (hw : LayOk w) (ss : List CStruct) (h : ∀ s ∈ ss, CStructOk s) :
    format (laidOut w ss) = some (canonText ss) ∧ readFile (laidOut w ss) false = .ok (fileOf ss) :=
  structs_laid ss h (laid_laidOut ss hw)

/-- C16 + C17 for every layout of `LayOk`: the formatter's output parses to the same `File` as its input, and is a
    fixpoint of the formatter (so formatting is idempotent on every laid-out text). -/
theorem C16_C17_structs_layout_partial (w : CLay) (hw : LayOk w) (ss : List CStruct) (h : ∀ s ∈ ss, CStructOk s) :
    ∃ out, format (laidOut w ss) = some out ∧ readFile out false = readFile (laidOut w ss) false ∧
      format out = some out ∧ (format (laidOut w ss) >>= format) = format (laidOut w ss) :=
  have ⟨h1, h2⟩ := C16_structs_layout_partial w hw ss h
  have h3 := C17_structs_canonical_partial ss h
  ⟨_, h1, (C11_structs_canonical_partial ss h).trans h2.symm, h3, format_idem h1 h3⟩

/-- The canonical text is the laid-out text of the canonical layout, and that layout is admissible. -/
theorem canonText_is_laidOut (ss : List CStruct) : canonText ss = laidOut canonLay ss ∧ LayOk canonLay :=
  ⟨(laidOut_canon ss).symm, canonLay_ok⟩

/-- The struct-only sub-language is a special case of the extended one: same canonical text, same denoted `File`,
    well-formedness carries over (its layouts: `Canon.laid_laidOut`). -/
theorem structs_are_schemas (ss : List CStruct) (h : ∀ s ∈ ss, CStructOk s) :
    CFileOk (ss.map CTop.ofStruct) ∧ canonTextF (ss.map CTop.ofStruct) = canonText ss ∧
    denote (ss.map CTop.ofStruct) = fileOf ss :=
  ⟨cfileOk_ofStructs ss h, canonTextF_ofStructs ss, denote_ofStructs ss⟩

theorem C11_structs_canonical_from_schema (ss : List CStruct) (h : ∀ s ∈ ss, CStructOk s) :
    readFile (canonText ss) false = .ok (fileOf ss) :=
  C11_structs_canonical_partial ss h

theorem C17_structs_canonical_from_schema (ss : List CStruct) (h : ∀ s ∈ ss, CStructOk s) :
    format (canonText ss) = some (canonText ss) :=
  C17_structs_canonical_partial ss h

/-! ## Non-vacuity -/

/-- A schema that uses every construct of the extended sub-language at least once. -/
def exSchema : CFile := [
  { d := .import_ (strOf "common.bop") },
  { doc := [strOf " the package"], d := .const (strOf "go_package") (.str (strOf "example/pkg")) },
  { d := .const (strOf "Limit") (.int (strOf "int32") (strOf "-5")) },
  { d := .const (strOf "Debug") (.bool true) },
  { d := .const (strOf "Quiet") (.bool false) },
  { d := .const (strOf "Ratio") (.float (strOf "float32") true (strOf "12") (strOf "05")) },
  { d := .const (strOf "Top") (.inf (strOf "float64")) },
  { d := .const (strOf "Bottom") (.negInf (strOf "float64")) },
  { d := .const (strOf "Unknown") (.nan (strOf "float32")) },
  { d := .const (strOf "Id") (.guid (strOf "01234567-89ab-cdef-0123-456789abcdef")) },
  { d := .struct (some (.str (strOf "ABCD"))) false (strOf "Empty") [] },
  { doc := [strOf " A point.", strOf " Second line."],
    d := .struct (some (.num (strOf "0x1234"))) true (strOf "Point") [
      { doc := [strOf " horizontal", strOf "[tag(json)]", strOf "[tag(db:\"col x\")]"], dep := none,
        ty := .name (strOf "int32") 0, name := strOf "x",
        trail := some (strOf " pixels") },
      { dep := some (strOf "use x"), ty := .name (strOf "float32") 2, name := strOf "grid" },
      { dep := none, ty := .array (.name (strOf "Point") 0) 0, name := strOf "kids" },
      { dep := none, ty := .map (strOf "string") (.map (strOf "guid") (.name (strOf "byte") 1) 0) 0,
        name := strOf "index" }] },
  { doc := [strOf " a message"],
    d := .message none (strOf "Msg") [
      { dep := none, idx := strOf "1", ty := .name (strOf "string") 0, name := strOf "title" },
      { doc := [strOf " old"], dep := some (strOf "gone"), idx := strOf "200", ty := .name (strOf "Point") 1,
        name := strOf "pts" }] },
  { d := .enum false (strOf "Color") (some (strOf "int16")) [
      { dep := none, name := strOf "Red", val := [.lit (strOf "1")] },
      { doc := [strOf " hex"], dep := none, name := strOf "Green", val := [.lit (strOf "0x10")] },
      { dep := some (strOf "no"), name := strOf "Blue", val := [.lit (strOf "-3")] }] },
  { doc := [strOf " bits"],
    d := .enum true (strOf "Perm") none [
      { dep := none, name := strOf "Read", val := [.lit (strOf "1")] },
      { dep := none, name := strOf "Write", val := [.lit (strOf "0x2")] },
      { dep := none, name := strOf "All", val := [.ref (strOf "Read"), .bar, .ref (strOf "Write")] },
      { dep := none, name := strOf "Big", val := [.lp, .ref (strOf "Read"), .shl, .lit (strOf "4"), .rp, .amp,
                                                   .lp, .lp, .lit (strOf "0xff"), .rp, .rp, .shr, .lit (strOf "1")] }] },
  { d := .union (some (.num (strOf "7"))) (strOf "Shape") [
      .struct [strOf " a circle"] none (strOf "1") (strOf "Circle") [
        { doc := [strOf " radius"], dep := none, ty := .name (strOf "float64") 0, name := strOf "r",
          trail := some (strOf "mm") }],
      .message [] (some (strOf "old")) (strOf "2") (strOf "Poly") [
        { dep := none, idx := strOf "1", ty := .name (strOf "Point") 1, name := strOf "pts" }]] }]



/-- evaluation of the decidable well-formedness predicate (small closed data: identifiers, literals,
    table lookups — not the tokenizer / parser / formatter models) -/
theorem exSchema_ok : CFileOk exSchema := by decide +kernel

/-- A non-canonical layout: two or three blanks (space, tab, CR) in front of every token. -/
def exLayout : Nat → List Byte := fun k =>
  if k % 3 == 0 then [32, 9] else if k % 3 == 1 then [13, 32] else [32]

theorem exLayout_ok : LayoutOk exLayout (fileLex false exSchema) :=
  ⟨fun _ => iteInduction (motive := Blanks) (fun _ => .of_all rfl) fun _ =>
      iteInduction (motive := Blanks) (fun _ => .of_all rfl) fun _ => .of_all rfl,
    fun _ _ _ _ => iteInduction (motive := (· ≠ [])) (fun _ => nofun) fun _ =>
      iteInduction (motive := (· ≠ [])) (fun _ => nofun) fun _ => nofun⟩

/-- A schema of the larger language of the parser theorems: a trailing comment after a message field. -/
def exSchemaP : CFile := [
  { d := .message none (strOf "Msg") [
      { dep := none, idx := strOf "1", ty := .name (strOf "string") 0, name := strOf "title",
        trail := some (strOf " shown in the header") },
      { dep := none, idx := strOf "2", ty := .name (strOf "int32") 0, name := strOf "size" }] }]

theorem exSchemaP_ok : CFileOkP exSchemaP := by decide +kernel

example : readFile (canonTextF exSchemaP) false = .ok (denote exSchemaP) :=
  C11_schema_canonical_trailing_partial exSchemaP exSchemaP_ok

/-- Non-vacuity: the theorems instantiated at `exSchema` / `exLayout` (nothing is evaluated here). -/
example : readFile (laidOutF exLayout exSchema) false = .ok (denote exSchema) :=
  C11_schema_layout_partial exSchema exSchema_ok exLayout exLayout_ok
example : format (laidOutF exLayout exSchema) = some (canonTextF exSchema) :=
  C16_schema_layout_partial exSchema exSchema_ok exLayout exLayout_ok
example : readFile (canonTextF exSchema) false = .ok (denote exSchema) :=
  C11_schema_canonical_partial exSchema exSchema_ok
example : format (canonTextF exSchema) = some (canonTextF exSchema) :=
  C17_schema_canonical_partial exSchema exSchema_ok


end Bebop.Text
