/-
  Shared vocabulary of the property statements, and one concrete schema + value used by the
  non-vacuity examples that follow every property theorem.
-/
import Bebop.Stream

namespace Bebop

/-- The three generated encoders. `marshalTo buf`: into a caller-supplied buffer with arbitrary contents. -/
inductive Encoder where
  | marshal
  | marshalTo (buf : List Byte)
  | encodeStream

/-- The three generated decoders. -/
inductive Decoder where
  | unmarshal
  | mustUnmarshal
  | decodeStream

/-- The bytes an encoder produces for `v` (for `marshalTo`: the first `n` bytes of the buffer, `n` the
    returned count); `none`: panic or a non-nil error. -/
def runEnc : Encoder → Val → Option (List Byte)
  | .marshal, v => marshal v
  | .marshalTo buf, v => (marshalTo v buf).map (fun r => r.1.take r.2)
  | .encodeStream, v =>
      let r := encodeStream (fun _ => true) v
      if r.2 then none else some r.1.out

/-- The value a decoder returns for record `n`; `none`: error, panic or out of fuel. -/
def runDec (fuel : Nat) (env : Env) (n : Nat) : Decoder → List Byte → Option Val
  | .unmarshal, bs => match unmarshal fuel env true n bs with | .ok v => some v | _ => none
  | .mustUnmarshal, bs => match unmarshal fuel env false n bs with | .ok v => some v | _ => none
  | .decodeStream, bs => match decodeStream (fuel+1) env n bs with | .ok v _ => some v | _ => none

/-! A small schema exercising every constructor:
    0: struct Inner { int32 a; string s; }
    1: message M { 1 -> Inner inner; 2 -> int32[] xs; 3 -> map[string, bool] m; 4 -> guid g; 5 -> date d; }
    2: union U { 1 -> Inner; 2 -> M; }
    3: struct Outer { U u; M m; float64 f; } -/
def exEnv : Env :=
  [ .struct [.scalar 4, .str],
    .msg [⟨1, .ref 0, false⟩, ⟨2, .arr (.scalar 4), false⟩, ⟨3, .map .str .bool, false⟩, ⟨4, .guid, false⟩, ⟨5, .date, false⟩],
    .union [(1, 0), (2, 1)],
    .struct [.ref 2, .ref 1, .f64] ]

def exInner : Val := .struct [.scalar 4 7, .str [104, 105]]
def exMsg : Val :=
  .msg [(1, exInner), (2, .arr [.scalar 4 1, .scalar 4 4294967295]), (3, .map [(.str [97], .scalar 1 1), (.str [], .scalar 1 0)]),
        (4, .guid (List.range 16 |>.map UInt8.ofNat)), (5, .scalar 8 1234567)]
def exVal : Val := .struct [.union 2 exMsg, .msg [(2, .arr [])], .scalar 8 9221120237041090561]

instance (d : Def) : Decidable (DefOk d) := by cases d <;> unfold DefOk <;> exact inferInstance
instance (env : Env) : Decidable (EnvOk env) := by unfold EnvOk; exact inferInstance

theorem exEnv_ok : EnvOk exEnv := by decide

theorem exInner_wt : wt exEnv (.ref 0) exInner :=
  ⟨0, _, rfl, rfl, ⟨by decide, Or.inl ⟨rfl, by decide⟩⟩, ⟨rfl, by decide⟩, trivial⟩

theorem exMsg_wt : wt exEnv (.ref 1) exMsg :=
  ⟨1, _, rfl, rfl,
    ⟨by decide, by decide, ⟨_, rfl, rfl, exInner_wt⟩,
     by decide, by decide, ⟨_, rfl, rfl, _, rfl, by decide, by simp [wtList, wt], .inl (by decide)⟩,
     by decide, by decide, ⟨_, rfl, rfl, _, _, rfl, rfl, by decide, by simp [wtKVs, wt], by decide, nofun, trivial⟩,
     by decide, by decide, ⟨_, rfl, rfl, rfl, rfl⟩,
     by decide, by decide, ⟨_, rfl, rfl, by decide, .inr (.inr (.inr (.inr ⟨rfl, rfl, by decide⟩)))⟩, trivial⟩,
    by decide⟩

theorem exVal_wt : wt exEnv (.ref 3) exVal :=
  ⟨3, _, rfl, rfl,
    ⟨2, _, 1, rfl, rfl, by decide, rfl, exMsg_wt, by decide⟩,
    ⟨1, _, rfl, rfl, ⟨by decide, by decide, ⟨_, rfl, rfl, _, rfl, by decide, trivial, .inl (by decide)⟩, trivial⟩, by decide⟩,
    ⟨by decide, .inr (.inr (.inr (.inl ⟨rfl, rfl⟩)))⟩, trivial⟩

end Bebop
